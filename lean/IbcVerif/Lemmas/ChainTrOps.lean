/-
  What every step of the chain model does (`step_spec`): it satisfies `Tr`, a failed message changes nothing, and the
  channel / connection stores are written as `ChanShape` / `ConnShape` allow.  Each kind of state change gets a lemma of the form
  `{ Tr.refl s with … }`: a field of `Tr` that speaks only of components the change leaves alone is the field of `Tr.refl s`
  (the statements agree by reducing projections of the updated state); only fields that mention a changed component are written out.
-/
import IbcVerif.Lemmas.ChainTr
import IbcVerif.Lemmas.ChainShape
namespace IbcVerif.Chain
open FMap

/-- split a msg-handler equation `handler … = (s', out)` along all branches; the branches that
    return the original state are closed by `Tr.refl` -/
macro "msplit " h:ident : tactic =>
  `(tactic| ((try simp only at $h:ident); (repeat' split at $h:ident) <;>
      (try (simp only [Prod.mk.injEq] at $h:ident; obtain ⟨hh, -⟩ := $h:ident; subst hh; exact Tr.refl _))))

/-- after `msplit`: substitute the result state of a successful branch -/
macro "msubst " h:ident : tactic =>
  `(tactic| (simp only [Prod.mk.injEq] at $h:ident; obtain ⟨hh, -⟩ := $h:ident; subst hh))

/-- `WriteAcknowledgement` (04-channel) after any step: acknowledgements are write-once -/
theorem Tr.writeAckV1 {s s1 : ChainState} (t : Tr s s1) {k : Id × Id × Nat} (hk : s1.ackV1.get k = none) {a : Hex} :
    Tr s { s1 with ackV1 := s1.ackV1.set k a } :=
  { t with ackV1 := fun _ _ h => get_set_of_fresh hk (t.ackV1 _ _ h) }

theorem tr_recv1 {s s1 : ChainState} {env : Env} {p : PacketV1}
    {B : FMap String String} (h1 : recvPacketV1 s env p = .ok s1) :
    Tr s { s1 with log := s1.log ++ [.recv1 p.dp p.dc p.seq], app := B } := by
  obtain ⟨ch, hch, hst, h2⟩ := recvPacketV1_ok h1
  rcases applyReplayProtection_ok h2 with ⟨ho, hr, rfl⟩ | ⟨ho, hr, rfl⟩
  · exact { Tr.refl s with
      log := .inr ⟨_, rfl, ch, hch, hst, rfl, .inl ⟨ho, hr, get_set_self_ne_none, rfl⟩⟩
      receiptV1 := fun _ => get_set_ne_none
      nextRecv := fun _ _ _ h => .inl h
      nextAck := fun _ _ _ h => .inl h
      nextSend := fun _ _ h => .inl h }
  · exact { Tr.refl s with
      log := .inr ⟨_, rfl, ch, hch, hst, rfl, .inr ⟨ho, hr, get_set_self ..⟩⟩
      chanNew := fun _ _ _ h0 h1 => none_some_elim h0 h1
      nextRecv := fun _ _ _ hn => (get_set_or hn).elim
        (fun he => by cases he; cases hr.symm.trans hn; exact .inr (.inl ⟨get_set_self .., rfl⟩)) .inl
      nextAck := fun _ _ _ h => .inl h
      nextSend := fun _ _ h => .inl h }

theorem tr_ack1 {s s1 : ChainState} {env : Env} {p : PacketV1} {ack : Hex} {B : FMap String String}
    (h1 : acknowledgePacketV1 s env p = .ok s1) :
    Tr s { s1 with log := s1.log ++ [.ack1 p.sp p.sc p.seq ack], app := B } := by
  obtain ⟨ch, hch, hst, hc, h2⟩ := acknowledgePacketV1_ok h1
  have hc' : s.commitV1.get (p.sp, p.sc, p.seq) ≠ none := hc ▸ Option.some_ne_none _
  rcases h2 with ⟨ho, hn, rfl⟩ | ⟨ho, rfl⟩
  · exact { Tr.refl s with
      log := .inr ⟨_, rfl, ch, hch, hst, rfl, hc', get_del_self .., fun _ => ⟨hn, get_set_self ..⟩⟩
      commitV1New := fun _ _ _ h0 h1 => absurd h0 (get_ne_none_of_del h1)
      chanNew := fun _ _ _ h0 h1 => none_some_elim h0 h1
      nextAck := fun _ _ _ hn' => (get_set_or hn').elim
        (fun he => by cases he; cases hn.symm.trans hn'; exact .inr (.inl ⟨get_set_self .., ack, rfl⟩)) .inl
      nextRecv := fun _ _ _ h => .inl h
      nextSend := fun _ _ h => .inl h }
  · exact { Tr.refl s with
      log := .inr ⟨_, rfl, ch, hch, hst, rfl, hc', get_del_self .., fun h => absurd h ho⟩
      commitV1New := fun _ _ _ h0 h1 => absurd h0 (get_ne_none_of_del h1)
      nextRecv := fun _ _ _ h => .inl h
      nextAck := fun _ _ _ h => .inl h
      nextSend := fun _ _ h => .inl h }

theorem tr_timeout1 {s : ChainState} {p : PacketV1} {ch : Channel} {B : FMap String String}
    (hch : s.chan.get (p.sp, p.sc) = some ch) (hc : s.commitV1.get (p.sp, p.sc, p.seq) = some p.commit) :
    Tr s { timeoutExecuted s ch p with log := (timeoutExecuted s ch p).log ++ [.timeout1 p.sp p.sc p.seq], app := B } := by
  have hc' : s.commitV1.get (p.sp, p.sc, p.seq) ≠ none := hc ▸ Option.some_ne_none _
  rw [timeoutExecuted_eq]
  split
  · exact { Tr.refl s with
      log := .inr ⟨_, rfl, ch, hch, hc', get_del_self .., fun _ => ⟨_, get_set_self .., rfl⟩⟩
      commitV1New := fun _ _ _ h0 h1 => absurd h0 (get_ne_none_of_del h1)
      chanOld := fun _ _ ch0 h0 => .inr <| (get_set_or h0).elim
        (fun he => by
          cases he; cases hch.symm.trans h0
          refine ⟨_, get_set_self .., rfl, rfl, rfl, ?_, ne_or_ne_elim⟩
          by_cases hcl : ch.state = .closed
          · exact .inl hcl
          · exact .inr (.inr (.inr ⟨hcl, rfl⟩)))
        fun h => ⟨ch0, h, rfl, rfl, rfl, .inl rfl, ne_or_ne_elim⟩
      chanNew := fun _ _ _ h0 h1 => none_some_elim (get_set_eq_none hch h0) h1
      nextSendNew := fun _ _ h0 h1 => none_some_elim h0 h1
      nextRecv := fun _ _ _ h => .inl h
      nextAck := fun _ _ _ h => .inl h
      nextSend := fun _ _ h => .inl h }
  · exact { Tr.refl s with
      log := .inr ⟨_, rfl, ch, hch, hc', get_del_self .., fun h => by contradiction⟩
      commitV1New := fun _ _ _ h0 h1 => absurd h0 (get_ne_none_of_del h1)
      nextRecv := fun _ _ _ h => .inl h
      nextAck := fun _ _ _ h => .inl h
      nextSend := fun _ _ h => .inl h }

theorem tr_sendV1 {s s' : ChainState} {env : Env} {port chan : Id} {thRev thH tt seq : Nat} {data : Hex}
    (h : sendPacketV1 s env port chan thRev thH tt data = .ok (s', seq)) :
    Tr s (s'.logAdd (.send1 port chan seq)) := by
  obtain ⟨ch, hch, hst, hseq, rfl, _⟩ := sendPacketV1_ok h
  exact { Tr.refl s with
    log := .inr ⟨_, rfl, hseq, get_set_self ..⟩
    nextSend := fun _ _ hn => (get_set_or hn).elim
      (fun he => by subst he; cases hseq.symm.trans hn; exact .inr (.inl ⟨get_set_self .., _, rfl, decide_eq_true ⟨rfl, rfl⟩⟩))
      .inl
    nextSendNew := fun _ _ h0 h1 => none_some_elim (get_set_eq_none hseq h0) h1
    commitV1New := fun _ _ _ h0 h1 => by
      cases key_eq_of_get_set h0 h1
      exact ⟨hseq, get_set_self .., (hch ▸ Option.some_ne_none _)⟩
    commitV2New := fun _ _ h0 h1 => absurd h0 h1
    chanNew := fun _ _ _ h0 h1 => none_some_elim h0 h1
    nextRecv := fun _ _ _ h => .inl h
    nextAck := fun _ _ _ h => .inl h }

theorem tr_sendV2 {s : ChainState} {src : Id} {seq : Nat} (hseq : s.nextSend.get src = some seq)
    (hcp : s.cpV2.get src ≠ none) {c : CommitV2} {n : Nat} {B : FMap String String} :
    Tr s (({ commitSendV2 s src seq c with app := B }).logAdd (.send2 src seq n)) :=
  { Tr.refl s with
    log := .inr ⟨_, rfl, hseq, get_set_self ..⟩
    nextSend := fun _ _ hn => (get_set_or hn).elim
      (fun he => by subst he; cases hseq.symm.trans hn; exact .inr (.inl ⟨get_set_self .., _, rfl, decide_eq_true ⟨rfl, rfl⟩⟩))
      .inl
    nextSendNew := fun _ _ h0 h1 => none_some_elim (get_set_eq_none hseq h0) h1
    commitV1New := fun _ _ _ h0 h1 => absurd h0 h1
    commitV2New := fun _ _ h0 h1 => by
      cases key_eq_of_get_set h0 h1
      exact ⟨hseq, get_set_self .., hcp⟩
    chanNew := fun _ _ _ h0 h1 => none_some_elim h0 h1
    nextRecv := fun _ _ _ h => .inl h
    nextAck := fun _ _ _ h => .inl h }

theorem tr_recv2 {s : ChainState} {p : PacketV2} {n : Nat} {B : FMap String String}
    (hnone : s.receiptV2.get (p.dst, p.seq) = none) :
    Tr s { s with receiptV2 := s.receiptV2.set (p.dst, p.seq) (), log := s.log ++ [.recv2 p.dst p.seq n], app := B } :=
  { Tr.refl s with
    log := .inr ⟨_, rfl, hnone, get_set_self_ne_none⟩
    receiptV2 := fun _ => get_set_ne_none
    ackV2New := fun _ h0 h1 => absurd h0 h1
    asyncNew := fun _ _ h0 h1 => none_some_elim h0 h1
    nextRecv := fun _ _ _ h => .inl h
    nextAck := fun _ _ _ h => .inl h
    nextSend := fun _ _ h => .inl h }

theorem tr_recv2_async {s : ChainState} {p : PacketV2} {n : Nat} {B : FMap String String}
    (hnone : s.receiptV2.get (p.dst, p.seq) = none) :
    Tr s { s with receiptV2 := s.receiptV2.set (p.dst, p.seq) (), log := s.log ++ [.recv2 p.dst p.seq n], app := B,
                  asyncV2 := s.asyncV2.set (p.dst, p.seq) p } :=
  { tr_recv2 (B := B) hnone with
    ackV2New := fun _ h0 h1 => absurd h0 h1
    asyncNew := fun _ _ h0 h1 => by
      obtain ⟨rfl, rfl⟩ := eq_of_get_set h0 h1
      exact ⟨rfl, hnone, get_set_self_ne_none, rfl⟩
    asyncOld := fun _ _ h => (get_set_or h).elim (fun he => by subst he; exact .inr (.inr hnone)) .inl }

theorem tr_recv2_ack {s : ChainState} {p : PacketV2} {n : Nat} {B : FMap String String} {acks : List Hex}
    (hnone : s.receiptV2.get (p.dst, p.seq) = none) (hn : s.ackV2.get (p.dst, p.seq) = none) :
    Tr s { s with receiptV2 := s.receiptV2.set (p.dst, p.seq) (), log := s.log ++ [.recv2 p.dst p.seq n], app := B,
                  ackV2 := s.ackV2.set (p.dst, p.seq) acks } :=
  { tr_recv2 (B := B) hnone with
    ackV2 := fun _ _ => get_set_of_fresh hn
    ackV2New := fun _ h0 h1 => by
      obtain rfl := key_eq_of_get_set h0 h1
      exact ⟨get_set_self_ne_none, .inr (.inl hnone)⟩
    asyncNew := fun _ _ h0 h1 => none_some_elim h0 h1
    asyncOld := fun _ _ h => .inl h }

theorem tr_asyncWriteAckV2 {s s' : ChainState} {dst : Id} {seq : Nat} {acks : List Hex}
    (h : asyncWriteAckV2 s dst seq acks = .ok s') : Tr s s' := by
  obtain ⟨p, s1, hp, hw, rfl⟩ := asyncWriteAckV2_ok h
  obtain ⟨_, _, hnone, hrc, rfl⟩ := writeAckV2_ok hw
  exact { Tr.refl s with
    log := .inl rfl
    ackV2 := fun _ _ => get_set_of_fresh hnone
    ackV2New := fun _ h0 h1 => by
      obtain rfl := key_eq_of_get_set h0 h1
      refine ⟨hrc, ?_⟩
      by_cases hd : (p.dst, p.seq) = (dst, seq)
      · rw [hd]; exact .inl (get_del_self ..)
      · exact .inr (.inr ⟨_, p, hp, hd⟩)
    asyncNew := fun _ _ h0 h1 => absurd h0 (get_ne_none_of_del (h1 ▸ Option.some_ne_none _))
    asyncOld := fun k _ hk => by
      by_cases he : k = (dst, seq)
      · subst he; cases hp.symm.trans hk
        refine .inr (.inl ⟨get_del_self .., ?_⟩)
        by_cases hd : (p.dst, p.seq) = (dst, seq)
        · rw [← hd]; exact .inl ⟨rfl, hnone, get_set_self_ne_none⟩
        · exact .inr hd
      · exact .inl ((get_del_ne _ he).trans hk) }

theorem tr_terminal2 {s : ChainState} {src : Id} {q : Nat} {e : Event} {B : FMap String String}
    (he : (∃ a, e = .ack2 src q a) ∨ (∃ n, e = .timeout2 src q n))
    (hcp : s.cpV2.get src ≠ none) (hc : s.commitV2.get (src, q) ≠ none) :
    Tr s (({ ({ s with commitV2 := s.commitV2.del (src, q) } : ChainState) with app := B }).logAdd e) :=
  { Tr.refl s with
    log := .inr ⟨e, rfl, by rcases he with ⟨a, rfl⟩ | ⟨n, rfl⟩ <;> exact ⟨hcp, hc, get_del_self ..⟩⟩
    commitV2New := fun _ _ h0 h1 => absurd h0 (get_ne_none_of_del h1)
    nextRecv := fun _ _ _ h => .inl h
    nextAck := fun _ _ _ h => .inl h
    nextSend := fun _ _ h => .inl h }

theorem tr_chanNew {s : ChainState} {port : Id} {k : String} {B : FMap String String} {chv : Channel}
    (hst : chv.state = .init ∨ chv.state = .tryopen) :
    Tr s (initSequences { s with nextChanSeq := s.nextChanSeq + 1, log := s.log ++ [.hs k port (fmtChan s.nextChanSeq)],
                                 app := B, chan := s.chan.set (port, fmtChan s.nextChanSeq) chv }
            port (fmtChan s.nextChanSeq)) :=
  { Tr.refl s with
    log := .inr ⟨_, rfl, fun _ => ⟨rfl, rfl⟩⟩
    nChan := Nat.le_succ _
    chanOld := fun _ _ ch h => (get_set_or h).imp (fun he => (Prod.mk.inj he).2)
      fun h' => ⟨ch, h', rfl, rfl, rfl, .inl rfl, ne_or_ne_elim⟩
    chanNew := fun _ _ _ h0 h1 => by
      obtain ⟨he, rfl⟩ := eq_of_get_set h0 h1
      cases he
      exact ⟨rfl, rfl, hst, get_set_self .., get_set_self .., get_set_self ..⟩
    nextRecv := fun _ _ _ hn => (get_set_or hn).elim (fun he => .inr (.inr (Prod.mk.inj he).2)) .inl
    nextAck := fun _ _ _ hn => (get_set_or hn).elim (fun he => .inr (.inr (Prod.mk.inj he).2)) .inl
    nextSend := fun _ _ hn => (get_set_or hn).elim (fun he => .inr (.inr (.inl he))) .inl
    nextSendNew := fun _ _ h0 h1 => by
      obtain ⟨rfl, rfl⟩ := eq_of_get_set h0 h1
      exact ⟨rfl, .inl rfl, .inl ⟨port, get_set_self_ne_none⟩⟩
    commitV1New := fun _ _ _ h0 h1 => absurd h0 h1
    commitV2New := fun _ _ h0 h1 => absurd h0 h1 }

/-- an existing channel end is rewritten (handshake ack/confirm, close), optionally registering the alias -/
theorem tr_chanUpdate {s : ChainState} {port chan : Id} {k : String} {B : FMap String String} {ch : Channel}
    {st : ChanState} {v : String} {cc : Id} {C : FMap Id (Id × List Hex)} {A : FMap Id Id}
    (hch : s.chan.get (port, chan) = some ch) (h4 : ChanTrans ch.state st)
    (h5 : (v ≠ ch.version ∨ cc ≠ ch.cpChan) → ch.state = .init ∧ st = .opened)
    (hC : C = s.cpV2 ∨ ∃ v, C = s.cpV2.set chan v) (hk : k ≠ "init" ∧ k ≠ "try") :
    Tr s { s with chan := s.chan.set (port, chan) { ch with state := st, version := v, cpChan := cc }, cpV2 := C, alias := A,
                  log := s.log ++ [.hs k port chan], app := B } :=
  { Tr.refl s with
    log := .inr ⟨_, rfl, fun h => h.elim (absurd · hk.1) (absurd · hk.2)⟩
    chanOld := fun _ _ ch0 h0 => .inr <| (get_set_or h0).elim
      (fun he => by cases he; cases hch.symm.trans h0; exact ⟨_, get_set_self .., rfl, rfl, rfl, h4, h5⟩)
      fun h => ⟨ch0, h, rfl, rfl, rfl, .inl rfl, ne_or_ne_elim⟩
    chanNew := fun _ _ _ h0 hn => none_some_elim (get_set_eq_none hch h0) hn
    cpV2 := fun _ hid => by
      rcases hC with rfl | ⟨v, rfl⟩
      · exact hid
      · exact get_set_ne_none hid
    cpV2New := fun _ h0 hn => by
      rcases hC with rfl | ⟨v, rfl⟩
      · exact absurd h0 hn
      · obtain rfl := key_eq_of_get_set h0 hn
        exact .inl ⟨port, (hch ▸ Option.some_ne_none _)⟩
    nextSend := fun _ _ h => .inl h
    nextSendNew := fun _ _ h0 h1 => none_some_elim h0 h1
    commitV2New := fun _ _ h0 h1 => absurd h0 h1
    nextRecv := fun _ _ _ h => .inl h
    nextAck := fun _ _ _ h => .inl h }

theorem tr_connNew {s : ChainState} {X : FMap Id (List Id)} {e : ConnEnd}
    (hst : e.state = .init ∨ e.state = .tryopen) (hcl : e.client ≠ localhostClient)
    (hv : e.state = .tryopen → ∃ v, e.versions = [v]) :
    Tr s { s with nextConnSeq := s.nextConnSeq + 1, clientConns := X,
                  conn := s.conn.set (fmtConn s.nextConnSeq) e,
                  log := s.log ++ [.genConn (fmtConn s.nextConnSeq)] } :=
  { Tr.refl s with
    log := .inr ⟨_, rfl, rfl, rfl⟩
    nConn := Nat.le_succ _
    connOld := fun _ e0 h0 => (get_set_or h0).imp id fun h => ⟨e0, h, .inl rfl⟩
    connNew := fun _ _ h0 h1 => by
      obtain ⟨rfl, rfl⟩ := eq_of_get_set h0 h1
      exact ⟨rfl, rfl, hst, hcl, hv⟩
    nextRecv := fun _ _ _ h => .inl h
    nextAck := fun _ _ _ h => .inl h
    nextSend := fun _ _ h => .inl h }

theorem tr_connUpdate {s : ChainState} {c : Id} {e e' : ConnEnd} (hc : s.conn.get c = some e) (hs : ConnStep e e') :
    Tr s { s with conn := s.conn.set c e' } :=
  { Tr.refl s with
    log := .inl rfl
    connOld := fun _ e0 h0 => .inr <| (get_set_or h0).elim
      (fun he => by subst he; cases hc.symm.trans h0; exact ⟨e', get_set_self .., hs⟩) fun h => ⟨e0, h, .inl rfl⟩
    connNew := fun _ _ h0 h1 => none_some_elim (get_set_eq_none hc h0) h1 }

theorem Outcome.spec {body : Body} {s s' : ChainState} {out : Out} {P : Prop} (h : Outcome s s' out P)
    (k : P → Tr s s' ∧ ChanShape body s s' ∧ ConnShape body s s') :
    (out.isOk = false → s' = s) ∧ Tr s s' ∧ ChanShape body s s' ∧ ConnShape body s s' :=
  ⟨h.unchanged, h.elim (fun ⟨_, e⟩ => e.symm ▸ ⟨Tr.refl s, cc_of_eq rfl rfl⟩) fun ⟨_, hp⟩ => k hp⟩

theorem step_spec {s s' : ChainState} {env : Env} {body : Body} {out : Out} (h : step s ⟨env, body⟩ = (s', out)) :
    (out.isOk = false → s' = s) ∧ Tr s s' ∧ ChanShape body s s' ∧ ConnShape body s s' := by
  cases body with
  | connOpenInit =>
    refine (connOpenInit_cases h).spec ?_
    rintro ⟨hcl, _, X, rfl⟩
    exact ⟨tr_connNew (.inl rfl) hcl nofun, .inl rfl, .inr ⟨_, _, rfl, nofun⟩⟩
  | connOpenTry =>
    refine (connOpenTry_cases h).spec ?_
    rintro ⟨hcl, _, _, X, rfl⟩
    exact ⟨tr_connNew (.inr rfl) hcl fun _ => ⟨_, rfl⟩, .inl rfl, .inr ⟨_, _, rfl, nofun⟩⟩
  | connOpenAck =>
    refine (connOpenAck_cases h).spec ?_
    rintro ⟨conn, hc, hst, hv, _, rfl⟩
    exact ⟨tr_connUpdate hc (.inr (.inl ⟨hst, rfl, rfl, rfl, rfl, rfl, _, rfl, hv⟩)),
      .inl rfl, .inr ⟨_, _, rfl, fun _ => rfl⟩⟩
  | connOpenConfirm =>
    refine (connOpenConfirm_cases h).spec ?_
    rintro ⟨conn, hc, hst, _, rfl⟩
    exact ⟨tr_connUpdate hc (.inr (.inr ⟨hst, rfl⟩)), .inl rfl, .inr ⟨_, _, rfl, fun _ => rfl⟩⟩
  | chanOpenInit =>
    refine (chanOpenInit_cases h).spec ?_
    rintro ⟨_, _, _, _, _, _, _, _, rfl⟩
    exact ⟨tr_chanNew (.inl rfl), .inr ⟨_, _, rfl, nofun⟩, .inl rfl⟩
  | chanOpenTry =>
    refine (chanOpenTry_cases h).spec ?_
    rintro ⟨_, _, _, _, _, _, _, _, _, rfl⟩
    exact ⟨tr_chanNew (.inr rfl), .inr ⟨_, _, rfl, nofun⟩, .inl rfl⟩
  | chanOpenAck =>
    refine (chanOpenAck_cases h).spec ?_
    rintro ⟨ch, _, _, C, A, _, hch, hst, _, _, _, hC, rfl⟩
    exact ⟨tr_chanUpdate hch (.inr (.inl ⟨hst, rfl⟩)) (fun _ => ⟨hst, rfl⟩) hC (by decide),
      .inr ⟨_, _, rfl, fun _ => rfl⟩, .inl rfl⟩
  | chanOpenConfirm =>
    refine (chanOpenConfirm_cases h).spec ?_
    rintro ⟨ch, _, _, C, A, _, hch, hst, _, _, _, hC, rfl⟩
    exact ⟨tr_chanUpdate hch (.inr (.inr (.inl ⟨hst, rfl⟩)))
      ne_or_ne_elim hC (by decide), .inr ⟨_, _, rfl, fun _ => rfl⟩, .inl rfl⟩
  | chanCloseInit =>
    refine (chanCloseInit_cases h).spec ?_
    rintro ⟨ch, _, hch, hst, rfl⟩
    exact ⟨tr_chanUpdate hch (.inr (.inr (.inr ⟨hst, rfl⟩)))
      ne_or_ne_elim (.inl rfl) (by decide), .inr ⟨_, _, rfl, nofun⟩, .inl rfl⟩
  | chanCloseConfirm =>
    refine (chanCloseConfirm_cases h).spec ?_
    rintro ⟨ch, _, _, _, hch, hst, _, _, rfl⟩
    exact ⟨tr_chanUpdate hch (.inr (.inr (.inr ⟨hst, rfl⟩)))
      ne_or_ne_elim (.inl rfl) (by decide), .inr ⟨_, _, rfl, nofun⟩, .inl rfl⟩
  | sendV1 =>
    refine (sendV1_cases h).spec ?_
    rintro ⟨_, _, hsend, rfl, _⟩
    refine ⟨tr_sendV1 hsend, ?_⟩
    obtain ⟨_, _, _, _, rfl, _⟩ := sendPacketV1_ok hsend
    exact cc_of_eq rfl rfl
  | recvV1 =>
    refine (recvV1_cases h).spec ?_
    rintro ⟨s1, hr, hcase⟩
    obtain ⟨hch, hcn, _⟩ := recvPacketV1_frame hr
    rcases hcase with ⟨_, hn, rfl⟩ | ⟨_, hn, rfl⟩ | ⟨_, rfl⟩
    · exact ⟨(tr_recv1 hr).writeAckV1 hn, cc_of_eq hch hcn⟩
    · exact ⟨(tr_recv1 hr).writeAckV1 hn, cc_of_eq hch hcn⟩
    · exact ⟨tr_recv1 hr, cc_of_eq hch hcn⟩
  | ackV1 =>
    refine (ackV1_cases h).spec ?_
    rintro ⟨_, h1, rfl⟩
    refine ⟨tr_ack1 h1, ?_⟩
    obtain ⟨_, _, _, _, ⟨_, _, rfl⟩ | ⟨_, rfl⟩⟩ := acknowledgePacketV1_ok h1 <;> exact cc_of_eq rfl rfl
  | timeoutV1 =>
    refine (timeoutV1_cases h).spec ?_
    rintro ⟨_, h1, rfl⟩
    obtain ⟨ch, hch, hc, rfl⟩ := timeoutPacketV1_ok h1
    exact ⟨tr_timeout1 hch hc, timeoutExecuted_shape⟩
  | timeoutOnCloseV1 =>
    refine (timeoutOnCloseV1_cases h).spec ?_
    rintro ⟨_, h1, rfl⟩
    obtain ⟨ch, hch, hc, rfl⟩ := timeoutOnCloseV1_ok h1
    exact ⟨tr_timeout1 hch hc, timeoutExecuted_shape⟩
  | writeAckV1 =>
    refine (writeAckV1_cases h).spec fun hw => ?_
    obtain ⟨_, _, _, _, _, _, hnone, rfl⟩ := writeAckV1_ok hw
    exact ⟨(Tr.refl s).writeAckV1 hnone, cc_of_eq rfl rfl⟩
  | sendV2 =>
    refine (sendV2_cases h).spec ?_
    rintro ⟨_, _, _, hsend, rfl, _⟩
    obtain ⟨_, _, hcp, hseq, rfl⟩ := sendPacketV2_ok hsend
    exact ⟨tr_sendV2 hseq (hcp ▸ Option.some_ne_none _), cc_of_eq rfl rfl⟩
  | recvV2 =>
    refine (recvV2_cases h).spec ?_
    rintro ⟨_, _, _, hr, _, rfl, hcase⟩
    obtain ⟨hnone, rfl⟩ := recvPacketV2_ok hr
    rcases hcase with ⟨_, hw⟩ | ⟨_, rfl⟩
    · obtain ⟨_, _, hn, _, rfl⟩ := writeAckV2_ok hw
      exact ⟨tr_recv2_ack hnone hn, cc_of_eq rfl rfl⟩
    · exact ⟨tr_recv2_async hnone, cc_of_eq rfl rfl⟩
  | ackV2 =>
    refine (ackV2_cases h).spec ?_
    rintro ⟨_, _, _, h1, rfl⟩
    obtain ⟨hcp, hc, rfl⟩ := acknowledgePacketV2_ok h1
    exact ⟨tr_terminal2 (.inl ⟨_, rfl⟩) hcp (hc ▸ Option.some_ne_none _), cc_of_eq rfl rfl⟩
  | timeoutV2 =>
    refine (timeoutV2_cases h).spec ?_
    rintro ⟨_, _, h1, rfl⟩
    obtain ⟨hcp, hc, rfl⟩ := timeoutPacketV2_ok h1
    exact ⟨tr_terminal2 (.inr ⟨_, rfl⟩) hcp (hc ▸ Option.some_ne_none _), cc_of_eq rfl rfl⟩
  | writeAckV2 =>
    refine (writeAckV2_cases h).spec fun hw => ⟨tr_asyncWriteAckV2 hw, ?_⟩
    obtain ⟨_, _, _, hw2, rfl⟩ := asyncWriteAckV2_ok hw
    obtain ⟨_, _, _, _, rfl⟩ := writeAckV2_ok hw2
    exact cc_of_eq rfl rfl
  | createClient ctype =>
    refine (createClient_cases h).spec ?_
    rintro ⟨hr, rfl⟩
    refine ⟨?_, cc_of_eq rfl rfl⟩
    exact { Tr.refl s with
      log := .inr ⟨_, rfl, ⟨ctype, rfl⟩, rfl⟩
      nClient := Nat.le_succ _
      clientState := fun _ => get_set_ne_none
      clientStateNew := fun _ h0 h1 => by
        obtain rfl := key_eq_of_get_set h0 h1
        obtain ⟨t, n, hp, _, hreg⟩ := route_ok_allowed hr
        exact ⟨⟨t, n, hp, hreg⟩, ⟨ctype, rfl⟩, rfl⟩
      creatorNew := fun _ h0 h1 => by
        obtain rfl := key_eq_of_get_set h0 h1
        exact get_set_self_ne_none
      nextSend := fun _ _ h => .inl h
      nextRecv := fun _ _ _ h => .inl h
      nextAck := fun _ _ _ h => .inl h }
  | updateClient => exact (updateClient_cases h).spec fun hs => hs.symm ▸ ⟨Tr.refl s, cc_of_eq rfl rfl⟩
  | registerCounterparty cid =>
    refine (registerCounterparty_cases h).spec ?_
    rintro ⟨hcr', hcp, rfl⟩
    have hcr : s.creator.get cid ≠ none := hcr' ▸ Option.some_ne_none _
    refine ⟨?_, cc_of_eq rfl rfl⟩
    exact { Tr.refl s with
      log := .inl rfl
      nextSend := fun _ _ hn => (get_set_or hn).elim (fun he => .inr (.inr (.inr (he ▸ ⟨hcp, hcr⟩)))) .inl
      nextSendNew := fun _ _ h0 h1 => by
        obtain ⟨rfl, rfl⟩ := eq_of_get_set h0 h1
        exact ⟨rfl, .inr ⟨hcp, hcr⟩, .inr (get_set_self_ne_none)⟩
      cpV2 := fun _ => get_set_ne_none
      cpV2New := fun _ h0 h1 => by
        obtain rfl := key_eq_of_get_set h0 h1
        exact .inr hcr
      chanNew := fun _ _ _ h0 h1 => none_some_elim h0 h1
      commitV1New := fun _ _ _ h0 h1 => absurd h0 h1
      commitV2New := fun _ _ h0 h1 => absurd h0 h1 }
  | updateClientConfig =>
    refine (updateClientConfig_cases h).spec ?_
    rintro rfl
    exact ⟨{ Tr.refl s with log := .inl rfl }, cc_of_eq rfl rfl⟩
  | deleteClientCreator =>
    refine (deleteClientCreator_cases h).spec ?_
    rintro rfl
    exact ⟨{ Tr.refl s with log := .inl rfl, creatorNew := fun _ h0 h1 => absurd h0 (get_ne_none_of_del h1) },
      cc_of_eq rfl rfl⟩
  | recoverClient => exact (recoverClient_cases h).spec fun hs => hs.2.symm ▸ ⟨Tr.refl s, cc_of_eq rfl rfl⟩
  | updateClientParams =>
    refine (updateClientParams_cases h).spec ?_
    rintro ⟨_, rfl⟩
    exact ⟨{ Tr.refl s with log := .inl rfl }, cc_of_eq rfl rfl⟩
  | updateConnParams =>
    refine (updateConnParams_cases h).spec ?_
    rintro ⟨_, rfl⟩
    exact ⟨{ Tr.refl s with log := .inl rfl }, cc_of_eq rfl rfl⟩
  | ibcSoftwareUpgrade => exact (ibcSoftwareUpgrade_cases h).spec fun hs => hs.2.symm ▸ ⟨Tr.refl s, cc_of_eq rfl rfl⟩

theorem step_tr {s s' : ChainState} {op : Op} {out : Out} (h : step s op = (s', out)) : Tr s s' :=
  (step_spec (env := op.env) (body := op.body) h).2.1

theorem tr_step (s : ChainState) (op : Op) : Tr s (step s op).1 := step_tr (out := (step s op).2) rfl

theorem step_shape {s s' : ChainState} {env : Env} {body : Body} {out : Out}
    (h : step s ⟨env, body⟩ = (s', out)) : ChanShape body s s' ∧ ConnShape body s s' := (step_spec h).2.2

theorem step_unchanged {s s' : ChainState} {op : Op} {out : Out} (h : step s op = (s', out))
    (hno : out.isOk = false) : s' = s := (step_spec (env := op.env) (body := op.body) h).1 hno

theorem not_ok_unchanged {s : ChainState} {op : Op} (h : ∀ s' r, step s op = (s', .ok r) → False) :
    (step s op).2.isOk = false ∧ (step s op).1 = s := by
  have hno : (step s op).2.isOk = false := by
    cases hout : (step s op).2 with
    | ok r => exact (h _ r (by rw [← hout])).elim
    | noop => rfl
    | err c => rfl
    | panic => rfl
  exact ⟨hno, step_unchanged rfl hno⟩

end IbcVerif.Chain
