/-
  Assembling the per-callback conservation lemmas into an invariant of all lifecycle-respecting
  histories.
-/
import IbcVerif.Lemmas.Ics20Conserve
namespace IbcVerif.Ics20
open IbcVerif IbcVerif.Xfer

theorem contains_cons_ne {α : Type} [BEq α] [LawfulBEq α] (l : List α) (a b : α) (h : b ≠ a) :
    (a :: l).contains b = l.contains b := by
  have : (b == a) = false := by simpa using h
  simp [this]

theorem pinv_step {cfg : Config} {w : World} (hp : PInv cfg w) (op : Op) (hpo : PartiesOK cfg op) :
    PInv cfg (step cfg w op).1 := by
  have hs := stepped cfg w op
  generalize (step cfg w op).1 = w', (step cfg w op).2 = r at hs ⊢
  cases hs with
  | transfer _ ht =>
    obtain ⟨_, _, _, _, _, _, _, _, hdata, _⟩ := transfer_ok ht
    exact List.forall_mem_cons.mpr ⟨by rw [hdata]; exact hpo, hp⟩
  | sendV2 ht =>
    obtain ⟨_, _, _, _, hdata, _⟩ := sendPacketV2_ok ht
    exact List.forall_mem_cons.mpr ⟨by rw [hdata]; exact hpo, hp⟩
  | _ => exact hp

/-- everything the cross-chain theorems carry along a history -/
structure Inv (cfg : Config) (w : World) : Prop where
  winv : WInv cfg w
  linv : LInv w
  pinv : PInv cfg w
  conserve : Conserve cfg w

theorem conserve_step {cfg : Config} (ha : Assm cfg) {w : World} (hi : Inv cfg w) (op : Op)
    (hg : Guard w op) (hpo : PartiesOK cfg op) : Conserve cfg (step cfg w op).1 := by
  obtain ⟨hwi, hl, hpi, hc⟩ := hi
  have hwi' := winv_step ha.peerIds hwi op hg
  have hs := stepped cfg w op
  generalize (step cfg w op).1 = w', (step cfg w op).2 = r at hs hwi' ⊢
  cases hs with
  | fail => exact hc
  | @transfer c _ _ m _ _ ch' p _ ht =>
    obtain ⟨s, n, tok, hs, _, htok, hhf, _, hdata, hc', _, hsc, _, _, hseq, hst⟩ := transfer_ok ht
    have hgood : GoodDenom tok := tokenFromCoin_good (hwi.store c) hhf htok
    have hst' : sendTransfer cfg c (w.chains c) transferPort m.chan tok n s = .ok ch' := by
      rcases hst with ⟨_, hst⟩ | ⟨_, _, hst⟩
      · exact hst
      · rw [hgood.stable] at hst; exact hst
    exact conserve_send ha hl hc hst' hgood (hpo.1 s hs) (fun hm => hg p hm ⟨hc', hsc, hseq⟩) hc' hsc
      (by rw [hdata]) (by rw [hdata]) rfl
  | @sendV2 c _ _ data _ _ ch' p ht =>
    obtain ⟨s, _, hs', _, hdata, hc', _, hsc, _, _, hseq, _, _, hst⟩ := sendPacketV2_ok ht
    -- the new packet's denomination is good: read it off the invariant of the successor world
    obtain ⟨hgood, hpath, _⟩ := hwi'.sent p List.mem_cons_self
    rw [hdata] at hgood hpath
    exact conserve_send ha hl hc hst hgood (hpo.1 s hs') (fun hm => hg p hm ⟨hc', hsc, hseq⟩) hc' hsc
      (by rw [hdata]; exact hpath.symm) (by rw [hdata]) rfl
  | @recv p ch' o hr =>
    obtain ⟨hps, hnr, hnt⟩ := hg
    have hna : p ∉ w.acked := fun h => by
      obtain ⟨b, hb⟩ := hl.acked_recvd p h
      exact hnr b hb
    have hwas : pending w p = true := by
      simp [pending, pendingIn, hnr true, hnt, hna]
    rcases recvPacket_ok hr with ⟨ho, hon⟩ | ⟨ho, rfl⟩
    · subst ho
      refine conserve_recv_ok ha hwi hl hpi hc hps hon rfl rfl hwas ?_ ?_
      · simp [pending, pendingIn, World.setChain]
      · intro q _ hne
        have h1 : (q, true) ≠ (p, true) := fun e => hne (Prod.mk.inj e).1
        have h2 : (q, false) ≠ (p, true) := fun e => by cases (Prod.mk.inj e).2
        simp only [pending, pendingIn, World.setChain, decide_true, contains_cons_ne _ _ _ h1, contains_cons_ne _ _ _ h2]
    · refine conserve_same hc (setChain_congr (·.bank) rfl) rfl ?_
      intro q _
      have hdec : decide (o = RecvOutcome.success) = false := by simpa using ho
      by_cases hqp : q = p
      · subst hqp
        rw [hwas]
        simp [pending, pendingIn, World.setChain, hdec, hnr true, hnt, hna]
      · have h1 : (q, true) ≠ (p, false) := fun e => by cases (Prod.mk.inj e).2
        have h2 : (q, false) ≠ (p, false) := fun e => hqp (Prod.mk.inj e).1
        simp only [pending, pendingIn, World.setChain, hdec, contains_cons_ne _ _ _ h1, contains_cons_ne _ _ _ h2]
  | @ack p a ch' hak =>
    obtain ⟨hps, ⟨b, hb, hab⟩, hna, hnt⟩ := hg
    rcases ackPacket_ok hak with ⟨hres, rfl⟩ | ⟨hae, href⟩
    · -- result acknowledgement: the packet was delivered, nothing is in flight any more
      obtain rfl : b = true := ackFor_result.mp (hres ▸ hab).symm
      refine conserve_same hc (setChain_congr (·.bank) rfl) rfl ?_
      intro q _
      by_cases hqp : q = p
      · subst hqp
        simp [pending, pendingIn, World.setChain, hb]
      · simp only [pending, pendingIn, World.setChain, contains_cons_ne _ _ _ hqp]
    · obtain rfl : b = false := Bool.eq_false_iff.mpr fun hb => by
        rw [hab, ackFor_result.mpr hb] at hae
        rcases hae with h | h <;> cases h
      have hnrt : (p, true) ∉ w.recvd := fun h => hl.recvd_unique p h hb
      have hwas : pending w p = true := by simp [pending, pendingIn, hnrt, hnt, hna]
      refine conserve_refund ha hwi hl hpi hc hps href rfl rfl hwas ?_ ?_
      · simp [pending, pendingIn, World.setChain, hb]
      · intro q _ hne
        simp only [pending, pendingIn, World.setChain, contains_cons_ne _ _ _ hne]
  | @timeout p oc ch' hto =>
    obtain ⟨hps, hnr, hna, hnt, _⟩ := hg
    have hwas : pending w p = true := by simp [pending, pendingIn, hnr true, hnt, hna]
    refine conserve_refund ha hwi hl hpi hc hps (timeoutPacket_ok hto) rfl rfl hwas ?_ ?_
    · simp [pending, pendingIn, World.setChain]
    · intro q _ hne
      simp only [pending, pendingIn, World.setChain, contains_cons_ne _ _ _ hne]
  | setParams c s r => exact conserve_same hc (setChain_congr (·.bank) rfl) rfl (fun _ _ => rfl)
  | @bankSend c f t dn n b hb =>
    obtain ⟨_, hsup, hbal⟩ := Bank.send_some hb
    intro A cA B cB X hpeer hX hnp
    have hinv := hc A cA B cB X hpeer hX hnp
    have hE1 := setChain_congr (w := w) (c := c) (ch' := { w.chains c with bank := b })
      (fun ch => ch.bank.bal (cfg.escrowAddr transferPort cA) (coin cfg X))
      (by rw [hbal, moveBal_other (hpo.1 _ _).symm (hpo.2 _ _).symm]) A
    have hE2 := setChain_congr (w := w) (c := c) (ch' := { w.chains c with bank := b }) (fun ch => ch.bank.supply) hsup B
    rw [hE1, hE2]
    exact hinv

theorem inv_step {cfg : Config} (ha : Assm cfg) {w : World} (hi : Inv cfg w) (op : Op)
    (hg : Guard w op) (hpo : PartiesOK cfg op) : Inv cfg (step cfg w op).1 :=
  ⟨winv_step ha.peerIds hi.winv op hg, linv_step hi.linv op hg, pinv_step hi.pinv op hpo, conserve_step ha hi op hg hpo⟩

theorem inv_run {cfg : Config} (ha : Assm cfg) :
    ∀ (ops : List Op) (w : World), Inv cfg w → LifecycleOK cfg w ops → (∀ op ∈ ops, PartiesOK cfg op) →
      Inv cfg (run cfg w ops) :=
  run_invariant fun _ op hi => inv_step ha hi op

end IbcVerif.Ics20
