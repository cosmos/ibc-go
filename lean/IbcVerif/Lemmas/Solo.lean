/-
  Helper lemmas for the 06-solomachine model (property C26): the protobuf encoding of `SignBytes` is
  injective in the sequence number; what the signature checks accept; the outcomes of a step.
-/
import IbcVerif.Model.Solo
import IbcVerif.Lemmas.ProtoVarint
import IbcVerif.Lemmas.Except
namespace IbcVerif.Solo
open IbcVerif.Proto

theorem ofNat_inj {a b : Nat} (ha : a < 256) (hb : b < 256) (h : UInt8.ofNat a = UInt8.ofNat b) : a = b := by
  have := congrArg UInt8.toNat h
  rwa [UInt8.toNat_ofNat', UInt8.toNat_ofNat', Nat.mod_eq_of_lt ha, Nat.mod_eq_of_lt hb] at this

/-- base-128 varints are self-delimiting -/
theorem encVarint_inj_append (n : Nat) : ∀ (m : Nat) (r r' : Bytes),
    encVarint n ++ r = encVarint m ++ r' → n = m ∧ r = r' := by
  have hmod : ∀ x, x % 128 + 128 < 256 := fun x => by omega
  induction n using Nat.strongRecOn with
  | _ n ih =>
    intro m r r' h
    -- the first byte is the value itself below 128, else `% 128 + 128` followed by the encoding of `/ 128`
    by_cases hn : n < 128 <;> by_cases hm : m < 128 <;>
      simp only [encVarint_lt, encVarint_ge, hn, hm, not_false_eq_true, List.cons_append, List.nil_append,
        List.cons.injEq] at h
    · exact ⟨ofNat_inj (Nat.lt_trans hn (by decide)) (Nat.lt_trans hm (by decide)) h.1, h.2⟩
    · have := ofNat_inj (Nat.lt_trans hn (by decide)) (hmod m) h.1
      omega
    · have := ofNat_inj (hmod n) (Nat.lt_trans hm (by decide)) h.1
      omega
    · have hb := ofNat_inj (hmod n) (hmod m) h.1
      have := ih (n / 128) (Nat.div_lt_self (by omega) (by decide)) (m / 128) r r' h.2
      exact ⟨by rw [← Nat.div_add_mod n 128, ← Nat.div_add_mod m 128, this.1, Nat.add_right_cancel hb], this.2⟩

theorem head?_append_ne {c : UInt8} {l₁ l₂ : Bytes} (h₁ : l₁.head? ≠ some c) (h₂ : l₂.head? ≠ some c) :
    (l₁ ++ l₂).head? ≠ some c := by
  cases l₁ with
  | nil => exact h₂
  | cons y ys => exact h₁

theorem encField_head?_ne (num : Nat) (hn : tagOf num < 128) (v : Bytes) {c : UInt8}
    (hc : UInt8.ofNat (tagOf num) ≠ c) : (encField num v).head? ≠ some c := by
  unfold encField
  split
  · nofun
  · rw [encVarint_lt _ hn]; simpa using hc

/-- everything after the sequence field starts (if at all) with a tag byte other than 0x08 -/
theorem rest_head?_ne (ts : Nat) (div path data : Bytes) :
    ((if ts = 0 then [] else 16 :: encVarint ts) ++
      (encField 3 div ++ (encField 4 path ++ encField 5 data))).head? ≠ some 8 :=
  head?_append_ne (by split <;> simp) (head?_append_ne (encField_head?_ne 3 (by decide) div (by decide))
    (head?_append_ne (encField_head?_ne 4 (by decide) path (by decide))
      (encField_head?_ne 5 (by decide) data (by decide))))

theorem encSignBytes_seq_inj (a b : SignBytes) (h : encSignBytes a = encSignBytes b) : a.seq = b.seq := by
  unfold encSignBytes at h
  by_cases ha : a.seq = 0
  · by_cases hb : b.seq = 0
    · omega
    · simp only [ha, if_true, hb, if_false, List.nil_append, List.cons_append] at h
      exact absurd (congrArg List.head? h) (rest_head?_ne a.ts a.div a.path a.data)
  · by_cases hb : b.seq = 0
    · simp only [ha, if_false, hb, if_true, List.nil_append, List.cons_append] at h
      exact absurd (congrArg List.head? h.symm) (rest_head?_ne b.ts b.div b.path b.data)
    · simp only [ha, hb, if_false, List.cons_append, List.cons.injEq, true_and] at h
      exact (encVarint_inj_append a.seq b.seq _ _ h).1

theorem verifySig_iff (key : KeyId) (bytes : Bytes) (σ : Sig) :
    verifySig key bytes σ = true ↔ σ = .signed key bytes := by
  simp [verifySig]

theorem verifySigAndData_ok_iff (pd : Bytes → Bool) (s : State) (mseq : Nat) (sd : SigAndData) :
    verifySigAndData pd s mseq sd = .ok () ↔
      pd sd.path = true ∧
      sd.sig = .sig (.signed s.key (encSignBytes ⟨mseq, sd.ts, s.div, sd.path, sd.data⟩)) := by
  unfold verifySigAndData
  cases pd sd.path with
  | false => simp
  | true => cases sd.sig <;> simp [verifySig_iff]

theorem verifyMisbehaviour_ok_iff (pd : Bytes → Bool) (s : State) (m : Misbehaviour) :
    verifyMisbehaviour pd s m = .ok () ↔
      (pd m.one.path = true ∧ m.one.sig = .sig (.signed s.key
        (encSignBytes ⟨m.seq, m.one.ts, s.div, m.one.path, m.one.data⟩))) ∧
      (pd m.two.path = true ∧ m.two.sig = .sig (.signed s.key
        (encSignBytes ⟨m.seq, m.two.ts, s.div, m.two.path, m.two.data⟩))) := by
  rw [← verifySigAndData_ok_iff, ← verifySigAndData_ok_iff]
  unfold verifyMisbehaviour
  cases verifySigAndData pd s m.seq m.one <;> simp

/-- A step either fails and leaves the state as it is, or is an accepted proof, header or misbehaviour
with the state that `verifyProof`, `UpdateState` or `UpdateStateOnMisbehaviour` produce. -/
theorem step_cases (pd : Bytes → Bool) (s : State) (op : Op) :
    (∃ e, step pd s op = (s, .err e)) ∨
    (∃ p path data s', (op = .vm p path data ∨ op = .kvm p path data ∨
        data = [] ∧ (op = .vnm p path ∨ op = .kvnm p path)) ∧
      verifyProof s p path data = .ok s' ∧ step pd s op = (s', .ok)) ∨
    (∃ v h, op = .update v (.header h) ∧ verifyHeader s h = .ok () ∧
      step pd s op = ({ s with seq := s.seq + 1, key := h.newKey, div := h.newDiv, ts := h.ts }, .ok)) ∨
    (∃ v w, op = .update v (.misbehaviour w) ∧ verifyMisbehaviour pd s w.m = .ok () ∧
      step pd s op = ({ s with frozen := true }, .ok)) := by
  have hres : ∀ r, (∃ e, verifyRes s r = (s, .err e)) ∨ ∃ s', r = .ok s' ∧ verifyRes s r = (s', .ok) := by
    rintro (e | s')
    · exact .inl ⟨e, rfl⟩
    · exact .inr ⟨s', rfl, rfl⟩
  -- `r` stands for the result, so that unfolding `step` rewrites `hr` and not the four cases of the goal
  generalize hr : step pd s op = r
  cases op with
  | vm p path v =>
    subst hr
    exact (hres _).imp_right fun h => h.elim fun s' h => .inl ⟨p, path, v, s', .inl rfl, h.1, h.2⟩
  | vnm p path =>
    subst hr
    exact (hres _).imp_right fun h => h.elim fun s' h =>
      .inl ⟨p, path, [], s', .inr (.inr ⟨rfl, .inl rfl⟩), h.1, h.2⟩
  | kvm p path v =>
    dsimp only [step] at hr
    split at hr
    · subst hr
      exact .inl ⟨_, rfl⟩
    · subst hr
      exact (hres _).imp_right fun h => h.elim fun s' h => .inl ⟨p, path, v, s', .inr (.inl rfl), h.1, h.2⟩
  | kvnm p path =>
    dsimp only [step] at hr
    split at hr
    · subst hr
      exact .inl ⟨_, rfl⟩
    · subst hr
      exact (hres _).imp_right fun h => h.elim fun s' h =>
        .inl ⟨p, path, [], s', .inr (.inr ⟨rfl, .inr rfl⟩), h.1, h.2⟩
  | update v msg =>
    -- in turn: `validateMsg`, the status gate, the kind of message, its verification
    dsimp only [step] at hr
    split at hr
    · subst hr
      exact .inl ⟨_, rfl⟩
    unfold updateClient at hr
    split at hr
    · subst hr
      exact .inl ⟨_, rfl⟩
    split at hr
    · subst hr
      exact .inl ⟨_, rfl⟩
    · split at hr
      · subst hr
        exact .inl ⟨_, rfl⟩
      · next hx =>
        subst hr
        exact .inr (.inr (.inl ⟨v, _, rfl, hx, rfl⟩))
    · split at hr
      · subst hr
        exact .inl ⟨_, rfl⟩
      · next hx =>
        subst hr
        exact .inr (.inr (.inr ⟨v, _, rfl, hx, rfl⟩))

end IbcVerif.Solo
