/-
  Lemmas on Model/Height.lean: the UInt64 comparison of heights read on the underlying naturals.  `cmpNat_cases` is the
  one case analysis; `cmpNat_iff` and the `Height.*_iff` lemmas follow from it.
-/
import IbcVerif.Model.Height
namespace IbcVerif

/-- comparison on the underlying naturals -/
def cmpNat (ar ah br bh : Nat) : Int :=
  if ar ≠ br then (if ar < br then -1 else 1)
  else (if ah < bh then -1 else if ah = bh then 0 else 1)

theorem Height.compare_toNat (a b : Height) :
    Height.compare a b = cmpNat a.rev.toNat a.h.toNat b.rev.toNat b.h.toNat := by
  simp only [Height.compare, cmpNat, UInt64.lt_iff_toNat_lt, ne_eq, ← UInt64.toNat_inj]

theorem Height.ext_toNat (a b : Height) : a = b ↔ (a.rev.toNat = b.rev.toNat ∧ a.h.toNat = b.h.toNat) := by
  obtain ⟨ar, ah⟩ := a; obtain ⟨br, bh⟩ := b
  simp [← UInt64.toNat_inj]

theorem cmpNat_cases (ar ah br bh : Nat) :
    (cmpNat ar ah br bh = -1 ∧ (ar < br ∨ (ar = br ∧ ah < bh))) ∨
    (cmpNat ar ah br bh = 0 ∧ ar = br ∧ ah = bh) ∨
    (cmpNat ar ah br bh = 1 ∧ (br < ar ∨ (ar = br ∧ bh < ah))) := by
  unfold cmpNat
  by_cases h1 : ar = br
  · by_cases h2 : ah < bh
    · simp [h1, h2]
    · by_cases h3 : ah = bh
      · simp [h1, h3]
      · simp [h1, h2, h3]; omega
  · by_cases h2 : ar < br
    · simp [h1, h2]
    · simp [h1, h2]; omega

theorem cmpNat_iff (ar ah br bh : Nat) :
    (cmpNat ar ah br bh = -1 ↔ ar < br ∨ (ar = br ∧ ah < bh)) ∧
    (cmpNat ar ah br bh ≤ 0 ↔ ar < br ∨ (ar = br ∧ ah ≤ bh)) ∧
    (cmpNat ar ah br bh = 0 ↔ ar = br ∧ ah = bh) ∧
    (cmpNat ar ah br bh ≥ 0 ↔ ar > br ∨ (ar = br ∧ ah ≥ bh)) ∧
    (cmpNat ar ah br bh = 1 ↔ ar > br ∨ (ar = br ∧ ah > bh)) := by
  rcases cmpNat_cases ar ah br bh with ⟨e, c⟩ | ⟨e, c⟩ | ⟨e, c⟩ <;> rw [e] <;> omega

theorem Height.lt_iff (a b : Height) :
    Height.lt a b = true ↔ a.rev.toNat < b.rev.toNat ∨ (a.rev.toNat = b.rev.toNat ∧ a.h.toNat < b.h.toNat) := by
  simp only [Height.lt, Height.compare_toNat, beq_iff_eq]
  exact (cmpNat_iff ..).1

theorem Height.lte_iff (a b : Height) :
    Height.lte a b = true ↔ a.rev.toNat < b.rev.toNat ∨ (a.rev.toNat = b.rev.toNat ∧ a.h.toNat ≤ b.h.toNat) := by
  simp only [Height.lte, Height.compare_toNat, decide_eq_true_eq]
  exact (cmpNat_iff ..).2.1

theorem Height.eq_iff (a b : Height) : Height.eq a b = true ↔ a = b := by
  simp only [Height.eq, Height.compare_toNat, beq_iff_eq, Height.ext_toNat]
  exact (cmpNat_iff ..).2.2.1

theorem Height.gte_iff (a b : Height) :
    Height.gte a b = true ↔ a.rev.toNat > b.rev.toNat ∨ (a.rev.toNat = b.rev.toNat ∧ a.h.toNat ≥ b.h.toNat) := by
  simp only [Height.gte, Height.compare_toNat, decide_eq_true_eq]
  exact (cmpNat_iff ..).2.2.2.1

theorem Height.gt_iff (a b : Height) :
    Height.gt a b = true ↔ a.rev.toNat > b.rev.toNat ∨ (a.rev.toNat = b.rev.toNat ∧ a.h.toNat > b.h.toNat) := by
  simp only [Height.gt, Height.compare_toNat, beq_iff_eq]
  exact (cmpNat_iff ..).2.2.2.2

theorem Height.gt_eq_lt (a b : Height) : Height.gt a b = Height.lt b a := by
  rw [Bool.eq_iff_iff, Height.gt_iff, Height.lt_iff]; omega

theorem Height.gte_eq_lte (a b : Height) : Height.gte a b = Height.lte b a := by
  rw [Bool.eq_iff_iff, Height.gte_iff, Height.lte_iff]; omega

theorem Height.isZero_iff (a : Height) : Height.isZero a = true ↔ a.rev.toNat = 0 ∧ a.h.toNat = 0 := by
  simp [Height.isZero, ← UInt64.toNat_inj]

end IbcVerif
