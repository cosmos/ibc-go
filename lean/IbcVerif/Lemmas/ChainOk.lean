/-
  What one message did: for every `Body`, a step either fails and returns the state it was given,
  or succeeds, and then the guards it passed and the state it produced are spelled out.  Everything
  that is said about single steps elsewhere (no change on failure, which stores a message can write,
  what a success proves about the light-client verdicts) is read off these lemmas.
-/
import IbcVerif.Lemmas.ChainSpec
namespace IbcVerif.Chain
open FMap

def Out.isOk : Out → Bool
  | .ok _ => true
  | _ => false

/-- split a handler equation whose result is known to be a success: keeps only the success branches -/
macro "oksplit " h:ident : tactic =>
  `(tactic| ((try simp only at $h:ident); (repeat' split at $h:ident) <;>
      (simp only [Prod.mk.injEq] at $h:ident; obtain ⟨h1, h2⟩ := $h:ident; subst h1;
        try (first | (cases h2; done) | contradiction))))

/-- a handler run from `s` returned `(s', out)`: a failure leaves the state as it was, a success is
    described by `P` -/
def Outcome (s s' : ChainState) (out : Out) (P : Prop) : Prop :=
  (out.isOk = false ∧ s' = s) ∨ (out.isOk = true ∧ P)

namespace Outcome
variable {s s' : ChainState} {out : Out} {P Q : Prop}

theorem fail {o : Out} (h : (s, o) = (s', out)) (ho : o.isOk = false := by rfl) : Outcome s s' out P := by
  cases h; exact .inl ⟨ho, rfl⟩

theorem guard {c : Prop} [Decidable c] {o : Out} {rest : ChainState × Out}
    (h : (if c then (s, o) else rest) = (s', out)) (k : ¬c → rest = (s', out) → Outcome s s' out P)
    (ho : o.isOk = false := by rfl) : Outcome s s' out P := by
  by_cases hc : c
  · rw [if_pos hc] at h; exact fail h ho
  · rw [if_neg hc] at h; exact k hc h

theorem succeed {x : ChainState} {r : String} (h : (x, Out.ok r) = (s', out)) (hp : s' = x → out = .ok r → P) :
    Outcome s s' out P := by
  cases h; exact .inr ⟨rfl, hp rfl rfl⟩

theorem imp (h : Outcome s s' out P) (f : P → Q) : Outcome s s' out Q :=
  h.elim .inl fun ⟨h1, h2⟩ => .inr ⟨h1, f h2⟩

theorem unchanged (h : Outcome s s' out P) (hno : out.isOk = false) : s' = s := by
  rcases h with ⟨_, h⟩ | ⟨h, _⟩
  · exact h
  · rw [hno] at h; cases h

theorem ok (h : Outcome s s' out P) (hok : out.isOk = true) : P := by
  rcases h with ⟨h, _⟩ | ⟨_, h⟩
  · rw [hok] at h; cases h
  · exact h

end Outcome

variable {s s' : ChainState} {env : Env} {out : Out}

theorem done_cases {x : Except String ChainState} (h : done s x = (s', out)) :
    Outcome s s' out (x = .ok s') := by
  unfold done at h
  split at h
  · exact .succeed h fun hs _ => hs ▸ rfl
  · exact .guard h fun _ h => .fail h

theorem afterTao_cases {x : Except String ChainState} {ev : Event} {app : AppV1}
    (h : afterTao s env x ev app = (s', out)) :
    Outcome s s' out (∃ s1, x = .ok s1 ∧
      s' = { s1 with log := s1.log ++ [ev], app := appWrites s1.app "" env.tag app.w }) := by
  unfold afterTao at h
  dsimp only [ChainState.logAdd, ChainState.appWrite] at h
  split at h
  · exact .guard h fun _ h => .guard h fun _ h => .fail h
  · exact .guard h fun _ h => .succeed h fun hs _ => ⟨_, rfl, hs⟩

theorem connOpenInit_cases {client cpClient : Id} {cpPrefix : Hex}
    {version : Option Version} {delay : Nat}
    (h : step s ⟨env, .connOpenInit client cpClient cpPrefix version delay⟩ = (s', out)) :
    Outcome s s' out (client ≠ localhostClient ∧ ∃ versions X, s' =
      { s with nextConnSeq := s.nextConnSeq + 1, clientConns := X,
               conn := s.conn.set (fmtConn s.nextConnSeq) ⟨.init, client, cpClient, "", cpPrefix, versions, delay⟩,
               log := s.log ++ [.genConn (fmtConn s.nextConnSeq)] }) := by
  refine .guard h fun _ h => ?_
  dsimp only [msgConnOpenInit] at h
  refine .guard h fun hcl h => ?_
  split at h
  · exact .fail h
  refine .guard h fun _ h => ?_
  split at h
  · exact .fail h
  rename_i ha
  obtain ⟨X, rfl⟩ := addConnectionToClient_ok ha
  exact .succeed h fun hs _ => ⟨hcl, _, X, hs⟩

theorem connOpenTry_cases {client cpClient cpConn : Id} {cpPrefix : Hex}
    {versions : List Version} {delay : Nat}
    (h : step s ⟨env, .connOpenTry client cpClient cpConn cpPrefix versions delay⟩ = (s', out)) :
    Outcome s s' out (client ≠ localhostClient ∧ env.lc.v1 = true ∧ ∃ v X, s' =
      { s with nextConnSeq := s.nextConnSeq + 1, clientConns := X,
               conn := s.conn.set (fmtConn s.nextConnSeq) ⟨.tryopen, client, cpClient, cpConn, cpPrefix, [v], delay⟩,
               log := s.log ++ [.genConn (fmtConn s.nextConnSeq)] }) := by
  refine .guard h fun _ h => ?_
  dsimp only [msgConnOpenTry] at h
  refine .guard h fun hcl h => ?_
  split at h
  · exact .fail h
  split at h
  · exact .fail h
  rename_i hv
  split at h
  · exact .fail h
  rename_i ha
  obtain ⟨X, rfl⟩ := addConnectionToClient_ok ha
  exact .succeed h fun hs _ => ⟨hcl, verify_ok_v hv, _, X, hs⟩

theorem connOpenAck_cases {c cpConn : Id} {version : Version}
    (h : step s ⟨env, .connOpenAck c cpConn version⟩ = (s', out)) :
    Outcome s s' out (∃ conn, s.conn.get c = some conn ∧ conn.state = .init ∧
      isSupportedVersion conn.versions version = true ∧ verify s env conn.client env.lc.v1 = .ok () ∧
      s' = { s with conn := s.conn.set c { conn with state := .opened, versions := [version], cpConn := cpConn } }) := by
  refine .guard h fun _ h => ?_
  dsimp only [msgConnOpenAck] at h
  split at h
  · exact .fail h
  rename_i conn hc
  refine .guard h fun h1 h => .guard h fun h2 h => ?_
  split at h
  · exact .fail h
  rename_i hv
  exact .succeed h fun hs _ => ⟨conn, hc, Decidable.not_not.mp h1, by simpa using h2, hv, hs⟩

theorem connOpenConfirm_cases {c : Id}
    (h : step s ⟨env, .connOpenConfirm c⟩ = (s', out)) :
    Outcome s s' out (∃ conn, s.conn.get c = some conn ∧ conn.state = .tryopen ∧
      verify s env conn.client env.lc.v1 = .ok () ∧
      s' = { s with conn := s.conn.set c { conn with state := .opened } }) := by
  refine .guard h fun _ h => ?_
  dsimp only [msgConnOpenConfirm] at h
  split at h
  · exact .fail h
  rename_i conn hc
  refine .guard h fun h1 h => ?_
  split at h
  · exact .fail h
  rename_i hv
  exact .succeed h fun hs _ => ⟨conn, hc, Decidable.not_not.mp h1, hv, hs⟩

theorem chanOpenInit_cases {port : Id} {o : Order} {hops : List Id} {cpPort : Id}
    {version : String} {app : AppV1}
    (h : step s ⟨env, .chanOpenInit port o hops cpPort version app⟩ = (s', out)) :
    Outcome s s' out (∃ hop rest conn, hops = hop :: rest ∧ s.conn.get hop = some conn ∧
      connSupportsOrder conn o = .ok () ∧ ∃ ver B, s' = initSequences
      { s with nextChanSeq := s.nextChanSeq + 1, log := s.log ++ [.hs "init" port (fmtChan s.nextChanSeq)], app := B,
               chan := s.chan.set (port, fmtChan s.nextChanSeq) ⟨.init, o, cpPort, "", hops, ver⟩ }
      port (fmtChan s.nextChanSeq)) := by
  refine .guard h fun _ h => ?_
  dsimp only [msgChanOpenInit, ChainState.logAdd, ChainState.appWrite] at h
  refine .guard h fun _ h => ?_
  split at h
  · exact .fail h
  split at h
  · exact .fail h
  rename_i conn hc
  split at h
  · exact .fail h
  rename_i ho
  refine .guard h fun _ h => .guard h fun _ h => ?_
  exact .succeed h fun hs _ => ⟨_, _, conn, rfl, hc, ho, _, _, hs⟩

theorem chanOpenTry_cases {port : Id} {o : Order} {hops : List Id} {cpPort cpChan : Id}
    {cpVersion : String} {app : AppV1}
    (h : step s ⟨env, .chanOpenTry port o hops cpPort cpChan cpVersion app⟩ = (s', out)) :
    Outcome s s' out (∃ hop conn, hops = [hop] ∧ s.conn.get hop = some conn ∧ conn.state = .opened ∧
      connSupportsOrder conn o = .ok () ∧ verify s env conn.client env.lc.v1 = .ok () ∧ ∃ ver B, s' = initSequences
      { s with nextChanSeq := s.nextChanSeq + 1, log := s.log ++ [.hs "try" port (fmtChan s.nextChanSeq)], app := B,
               chan := s.chan.set (port, fmtChan s.nextChanSeq) ⟨.tryopen, o, cpPort, cpChan, hops, ver⟩ }
      port (fmtChan s.nextChanSeq)) := by
  refine .guard h fun _ h => ?_
  dsimp only [msgChanOpenTry, ChainState.logAdd, ChainState.appWrite] at h
  refine .guard h fun _ h => ?_
  split at h
  · split at h
    · exact .fail h
    rename_i conn hc
    refine .guard h fun h1 h => ?_
    split at h
    · exact .fail h
    rename_i ho
    split at h
    · exact .fail h
    rename_i hv
    refine .guard h fun _ h => ?_
    exact .succeed h fun hs _ => ⟨_, conn, rfl, hc, Decidable.not_not.mp h1, ho, hv, _, _, hs⟩
  · exact .fail h

/-- ChanOpenAck and ChanOpenConfirm write the channel end and, for an UNORDERED channel, register
    the v2 alias (`C`, `A`) -/
theorem chanOpenAck_cases {port chan cpChan : Id} {cpVersion : String} {app : AppV1}
    (h : step s ⟨env, .chanOpenAck port chan cpChan cpVersion app⟩ = (s', out)) :
    Outcome s s' out (∃ ch hop conn C A B, s.chan.get (port, chan) = some ch ∧ ch.state = .init ∧
      getConn s ch = .ok (hop, conn) ∧ conn.state = .opened ∧ verify s env conn.client env.lc.v1 = .ok () ∧
      (C = s.cpV2 ∨ ∃ v, C = s.cpV2.set chan v) ∧
      s' = { s with chan := s.chan.set (port, chan) { ch with state := .opened, version := cpVersion, cpChan := cpChan },
                    cpV2 := C, alias := A, log := s.log ++ [.hs "ack" port chan], app := B }) := by
  refine .guard h fun _ h => ?_
  dsimp only [msgChanOpenAck, ChainState.logAdd, ChainState.appWrite] at h
  refine .guard h fun _ h => ?_
  split at h
  · exact .fail h
  rename_i ch hch
  refine .guard h fun h1 h => ?_
  split at h
  · exact .guard h fun _ h => .fail h
  rename_i hop conn hg
  refine .guard h fun h2 h => ?_
  split at h
  · exact .fail h
  rename_i hv
  split at h
  · exact .fail h
  rename_i ha
  obtain ⟨C, A, rfl, hC⟩ := registerAlias_ok ha
  refine .guard h fun _ h => ?_
  exact .succeed h fun hs _ =>
    ⟨ch, hop, conn, C, A, _, hch, Decidable.not_not.mp h1, hg, Decidable.not_not.mp h2, hv, hC, hs⟩

theorem chanOpenConfirm_cases {port chan : Id} {app : AppV1}
    (h : step s ⟨env, .chanOpenConfirm port chan app⟩ = (s', out)) :
    Outcome s s' out (∃ ch hop conn C A B, s.chan.get (port, chan) = some ch ∧ ch.state = .tryopen ∧
      getConn s ch = .ok (hop, conn) ∧ conn.state = .opened ∧ verify s env conn.client env.lc.v1 = .ok () ∧
      (C = s.cpV2 ∨ ∃ v, C = s.cpV2.set chan v) ∧
      s' = { s with chan := s.chan.set (port, chan) { ch with state := .opened },
                    cpV2 := C, alias := A, log := s.log ++ [.hs "confirm" port chan], app := B }) := by
  refine .guard h fun _ h => ?_
  dsimp only [msgChanOpenConfirm, ChainState.logAdd, ChainState.appWrite] at h
  refine .guard h fun _ h => ?_
  split at h
  · exact .fail h
  rename_i ch hch
  refine .guard h fun h1 h => ?_
  split at h
  · exact .guard h fun _ h => .fail h
  rename_i hop conn hg
  refine .guard h fun h2 h => ?_
  split at h
  · exact .fail h
  rename_i hv
  split at h
  · exact .fail h
  rename_i ha
  obtain ⟨C, A, rfl, hC⟩ := registerAlias_ok ha
  refine .guard h fun _ h => ?_
  exact .succeed h fun hs _ =>
    ⟨ch, hop, conn, C, A, _, hch, Decidable.not_not.mp h1, hg, Decidable.not_not.mp h2, hv, hC, hs⟩

theorem chanCloseInit_cases {port chan : Id} {app : AppV1}
    (h : step s ⟨env, .chanCloseInit port chan app⟩ = (s', out)) :
    Outcome s s' out (∃ ch B, s.chan.get (port, chan) = some ch ∧ ch.state ≠ .closed ∧
      s' = { s with chan := s.chan.set (port, chan) { ch with state := .closed },
                    log := s.log ++ [.hs "closeInit" port chan], app := B }) := by
  refine .guard h fun _ h => ?_
  dsimp only [msgChanCloseInit, ChainState.logAdd, ChainState.appWrite] at h
  refine .guard h fun _ h => .guard h fun _ h => ?_
  split at h
  · exact .fail h
  rename_i ch hch
  refine .guard h fun h1 h => ?_
  split at h
  · exact .guard h fun _ h => .fail h
  refine .guard h fun _ h => .guard h fun _ h => ?_
  exact .succeed h fun hs _ => ⟨ch, _, hch, h1, hs⟩

theorem chanCloseConfirm_cases {port chan : Id} {app : AppV1}
    (h : step s ⟨env, .chanCloseConfirm port chan app⟩ = (s', out)) :
    Outcome s s' out (∃ ch hop conn B, s.chan.get (port, chan) = some ch ∧ ch.state ≠ .closed ∧
      getConn s ch = .ok (hop, conn) ∧ verify s env conn.client env.lc.v1 = .ok () ∧
      s' = { s with chan := s.chan.set (port, chan) { ch with state := .closed },
                    log := s.log ++ [.hs "closeConfirm" port chan], app := B }) := by
  refine .guard h fun _ h => ?_
  dsimp only [msgChanCloseConfirm, ChainState.logAdd, ChainState.appWrite] at h
  refine .guard h fun _ h => .guard h fun _ h => ?_
  split at h
  · exact .fail h
  rename_i ch hch
  refine .guard h fun h1 h => ?_
  split at h
  · exact .guard h fun _ h => .fail h
  rename_i hop conn hg
  refine .guard h fun _ h => ?_
  split at h
  · exact .fail h
  rename_i hv
  exact .succeed h fun hs _ => ⟨ch, hop, conn, _, hch, h1, hg, hv, hs⟩

theorem sendV1_cases {port chan : Id} {thRev thH tt : Nat} {data : Hex}
    (h : step s ⟨env, .sendV1 port chan thRev thH tt data⟩ = (s', out)) :
    Outcome s s' out (∃ seq s1, sendPacketV1 s env port chan thRev thH tt data = .ok (s1, seq) ∧
      s' = s1.logAdd (.send1 port chan seq) ∧ out = .ok (toString seq)) := by
  unfold step at h
  simp only [Body.isMsg, Bool.false_and, Bool.false_eq_true, if_false] at h
  split at h
  · exact .guard h fun _ h => .fail h
  · rename_i hsend
    exact .succeed h fun hs ho => ⟨_, _, hsend, hs, ho⟩

/-- the result of a successful v1 MsgRecvPacket, by application result: `s1` = state after the TAO
    checks (receipt / next-receive counter written); success ack: application writes kept, ack
    written; error ack: writes dropped, ack written; async: writes kept, no ack.  (`selfack` never
    succeeds: the second write of the acknowledgement fails.) -/
theorem recvV1_cases {p : PacketV1} {app : AppV1}
    (h : step s ⟨env, .recvV1 p app⟩ = (s', out)) :
    Outcome s s' out (∃ s1, recvPacketV1 s env p = .ok s1 ∧
      ((app.res = .ok ∧ s1.ackV1.get (p.dp, p.dc, p.seq) = none ∧
          s' = { s1 with log := s1.log ++ [.recv1 p.dp p.dc p.seq],
                                       app := appWrites s1.app "" env.tag app.w,
                                       ackV1 := s1.ackV1.set (p.dp, p.dc, p.seq) app.ack }) ∨
       (app.res = .err ∧ s1.ackV1.get (p.dp, p.dc, p.seq) = none ∧
          s' = { s1 with log := s1.log ++ [.recv1 p.dp p.dc p.seq],
                                        ackV1 := s1.ackV1.set (p.dp, p.dc, p.seq) app.ack }) ∨
       (app.res = .async ∧ s' = { s1 with log := s1.log ++ [.recv1 p.dp p.dc p.seq],
                                          app := appWrites s1.app "" env.tag app.w }))) := by
  refine .guard h fun _ h => ?_
  dsimp only [msgRecvPacket, ChainState.logAdd, ChainState.appWrite] at h
  refine .guard h fun _ h => ?_
  split at h
  · exact .guard h fun _ h => .guard h fun _ h => .fail h
  rename_i s1 hr
  have wrote : ∀ {c : ChainState}, writeAckV1 c p (some app.ack) = .ok s' →
      c.ackV1.get (p.dp, p.dc, p.seq) = none ∧ s' = { c with ackV1 := c.ackV1.set (p.dp, p.dc, p.seq) app.ack } :=
    fun hw => by
      obtain ⟨bz, _, hbz, _, _, _, hn, hs⟩ := writeAckV1_ok hw
      cases hbz; exact ⟨hn, hs⟩
  split at h <;> rename_i hres
  · exact (done_cases h).imp fun hw => ⟨s1, hr, .inl ⟨hres, wrote hw⟩⟩
  · exact (done_cases h).imp fun hw => ⟨s1, hr, .inr (.inl ⟨hres, wrote hw⟩)⟩
  · exact .succeed h fun hs _ => ⟨s1, hr, .inr (.inr ⟨hres, hs⟩)⟩
  · split at h <;> rename_i hw1
    · exact (done_cases h).imp fun hw => (writeAckV1_twice hw hw1).elim
    · exact (done_cases h).imp fun hw => (except_ok_error hw hw1).elim

theorem ackV1_cases {p : PacketV1} {ack : Hex} {app : AppV1}
    (h : step s ⟨env, .ackV1 p ack app⟩ = (s', out)) :
    Outcome s s' out (∃ s1, acknowledgePacketV1 s env p = .ok s1 ∧
      s' = { s1 with log := s1.log ++ [.ack1 p.sp p.sc p.seq ack], app := appWrites s1.app "" env.tag app.w }) :=
  .guard h fun _ h => .guard h fun _ h => afterTao_cases h

theorem timeoutV1_cases {p : PacketV1} {nsr a b : Nat} {app : AppV1}
    (h : step s ⟨env, .timeoutV1 p nsr a b app⟩ = (s', out)) :
    Outcome s s' out (∃ s1, timeoutPacketV1 s env p nsr a b = .ok s1 ∧
      s' = { s1 with log := s1.log ++ [.timeout1 p.sp p.sc p.seq], app := appWrites s1.app "" env.tag app.w }) :=
  .guard h fun _ h => .guard h fun _ h => afterTao_cases h

theorem timeoutOnCloseV1_cases {p : PacketV1} {nsr : Nat} {app : AppV1}
    (h : step s ⟨env, .timeoutOnCloseV1 p nsr app⟩ = (s', out)) :
    Outcome s s' out (∃ s1, timeoutOnCloseV1 s env p nsr = .ok s1 ∧
      s' = { s1 with log := s1.log ++ [.timeout1 p.sp p.sc p.seq], app := appWrites s1.app "" env.tag app.w }) :=
  .guard h fun _ h => .guard h fun _ h => afterTao_cases h

theorem writeAckV1_cases {p : PacketV1} {w : Option (Bool × Hex)}
    (h : step s ⟨env, .writeAckV1 p w⟩ = (s', out)) : Outcome s s' out (writeAckV1 s p (w.map (·.2)) = .ok s') :=
  done_cases h

theorem sendV2_cases {src : Id} {tt : Nat} {payloads : List Payload} {apps : List AppV2}
    (h : step s ⟨env, .sendV2 src tt payloads apps⟩ = (s', out)) :
    Outcome s s' out (∃ seq s1 app, sendPacketV2 s env src tt payloads = .ok (s1, seq) ∧
      s' = ({ s1 with app := app }).logAdd (.send2 src seq payloads.length) ∧ out = .ok (toString seq)) := by
  refine .guard h fun _ h => ?_
  dsimp only [msgSendPacketV2] at h
  split at h
  · exact .fail h
  rename_i hsend
  split at h
  · exact .guard h fun _ h => .fail h
  · exact .succeed h fun hs ho => ⟨_, _, _, hsend, hs, ho⟩

/-- a successful v2 MsgRecvPacket: `s1` = state with the receipt written, `rl` = result of the
    payload callbacks, `c` = `s1` with their writes (kept only if all succeeded) and the log entry;
    then either the acknowledgement is written, or the packet is stored as asynchronous -/
theorem recvV2_cases {p : PacketV2} {apps : List AppV2}
    (h : step s ⟨env, .recvV2 p apps⟩ = (s', out)) :
    Outcome s s' out (∃ s1 rl c, recvPacketV2 s env p = .ok s1 ∧
      recvLoop env.tag p.payloads.length 0 p.payloads apps ⟨s1.app, [], false, true, 0⟩ = .ok rl ∧
      c = { s1 with app := if rl.isSuccess then rl.app else s1.app, log := s1.log ++ [.recv2 p.dst p.seq rl.ran] } ∧
      ((rl.isAsync = false ∧ writeAckV2 c p rl.acks = .ok s') ∨
       (rl.isAsync = true ∧ s' = { c with asyncV2 := c.asyncV2.set (p.dst, p.seq) p }))) := by
  refine .guard h fun _ h => ?_
  dsimp only [msgRecvPacketV2, ChainState.logAdd, ChainState.appWrite] at h
  refine .guard h fun _ h => ?_
  split at h
  · exact .guard h fun _ h => .fail h
  rename_i s1 hr
  split at h
  · exact .guard h fun _ h => .fail h
  rename_i rl hl
  cases ha : rl.isAsync <;> rw [ha] at h
  · refine .guard h fun _ h => ?_
    exact (done_cases h).imp fun hw => ⟨s1, rl, _, hr, hl, rfl, .inl ⟨ha, hw⟩⟩
  · exact .succeed h fun hs _ => ⟨s1, rl, _, hr, hl, rfl, .inr ⟨ha, hs⟩⟩

theorem ackV2_cases {p : PacketV2} {acks : List Hex} {apps : List AppV2}
    (h : step s ⟨env, .ackV2 p acks apps⟩ = (s', out)) :
    Outcome s s' out (∃ s1 app d, acknowledgePacketV2 s env p = .ok s1 ∧
      s' = ({ s1 with app := app }).logAdd (.ack2 p.src p.seq d)) := by
  refine .guard h fun _ h => ?_
  dsimp only [msgAcknowledgementV2] at h
  refine .guard h fun _ h => ?_
  split at h
  · exact .guard h fun _ h => .fail h
  rename_i hack
  split at h
  · exact .fail h
  split at h
  · exact .guard h fun _ h => .fail h
  · exact .succeed h fun hs _ => ⟨_, _, _, hack, hs⟩

theorem timeoutV2_cases {p : PacketV2} {apps : List AppV2}
    (h : step s ⟨env, .timeoutV2 p apps⟩ = (s', out)) :
    Outcome s s' out (∃ s1 app, timeoutPacketV2 s env p = .ok s1 ∧
      s' = ({ s1 with app := app }).logAdd (.timeout2 p.src p.seq p.payloads.length)) := by
  refine .guard h fun _ h => ?_
  dsimp only [msgTimeoutV2] at h
  refine .guard h fun _ h => ?_
  split at h
  · exact .guard h fun _ h => .fail h
  rename_i ht
  split at h
  · exact .guard h fun _ h => .fail h
  · exact .succeed h fun hs _ => ⟨_, _, ht, hs⟩

theorem writeAckV2_cases {dst : Id} {seq : Nat} {acks : List Hex}
    (h : step s ⟨env, .writeAckV2 dst seq acks⟩ = (s', out)) : Outcome s s' out (asyncWriteAckV2 s dst seq acks = .ok s') :=
  done_cases h

theorem createClient_cases {ctype : String}
    (h : step s ⟨env, .createClient ctype⟩ = (s', out)) :
    Outcome s s' out (route { s with nextClientSeq := s.nextClientSeq + 1 } (fmtClient ctype s.nextClientSeq) = .ok () ∧
      s' = { s with nextClientSeq := s.nextClientSeq + 1,
                    clientState := s.clientState.set (fmtClient ctype s.nextClientSeq) (),
                    creator := s.creator.set (fmtClient ctype s.nextClientSeq) env.signer,
                    log := s.log ++ [.genClient (fmtClient ctype s.nextClientSeq)] }) := by
  refine .guard h fun _ h => ?_
  dsimp only [msgCreateClient, ChainState.logAdd, ChainState.appWrite] at h
  refine .guard h fun _ h => ?_
  split at h
  · exact .fail h
  rename_i hr
  refine .guard h fun _ h => .guard h fun _ h => ?_
  exact .succeed h fun hs _ => ⟨hr, hs⟩

theorem updateClient_cases {cid : Id}
    (h : step s ⟨env, .updateClient cid⟩ = (s', out)) : Outcome s s' out (s' = s) := by
  refine .guard h fun _ h => ?_
  dsimp only [msgUpdateClient] at h
  refine .guard h fun _ h => ?_
  split at h
  · exact .fail h
  exact .guard h fun _ h => .guard h fun _ h => .succeed h fun hs _ => hs

theorem registerCounterparty_cases {cid cpClient : Id} {pfx : List Hex}
    (h : step s ⟨env, .registerCounterparty cid cpClient pfx⟩ = (s', out)) :
    Outcome s s' out (s.creator.get cid = some env.signer ∧ s.cpV2.get cid = none ∧
      s' = { s with cpV2 := s.cpV2.set cid (cpClient, pfx), nextSend := s.nextSend.set cid 1 }) := by
  refine .guard h fun _ h => ?_
  dsimp only [msgRegisterCounterparty] at h
  refine .guard h fun h1 h => .guard h fun h2 h => ?_
  exact .succeed h fun hs _ => ⟨Decidable.not_not.mp h1, (has_false_iff _ _).mp (by simpa using h2), hs⟩

theorem updateClientConfig_cases {cid : Id} {relayers : List String}
    (h : step s ⟨env, .updateClientConfig cid relayers⟩ = (s', out)) :
    Outcome s s' out (s' = { s with cfgV2 := s.cfgV2.set cid relayers }) :=
  .guard h fun _ h => .guard h fun _ h => .succeed h fun hs _ => hs

theorem deleteClientCreator_cases {cid : Id}
    (h : step s ⟨env, .deleteClientCreator cid⟩ = (s', out)) :
    Outcome s s' out (s' = { s with creator := s.creator.del cid }) := by
  refine .guard h fun _ h => ?_
  dsimp only [msgDeleteClientCreator] at h
  split at h
  · exact .fail h
  exact .guard h fun _ h => .succeed h fun hs _ => hs

theorem recoverClient_cases {a b : Id}
    (h : step s ⟨env, .recoverClient a b⟩ = (s', out)) : Outcome s s' out (env.signer = authority ∧ s' = s) := by
  refine .guard h fun _ h => ?_
  dsimp only [msgRecoverClient] at h
  refine .guard h fun h1 h => ?_
  split at h
  · exact .fail h
  exact .guard h fun _ h => .guard h fun _ h => .guard h fun _ h => .guard h fun _ h =>
    .succeed h fun hs _ => ⟨Decidable.not_not.mp h1, hs⟩

theorem updateClientParams_cases {allowed : List String}
    (h : step s ⟨env, .updateClientParams allowed⟩ = (s', out)) :
    Outcome s s' out (env.signer = authority ∧ s' = { s with allowedClients := allowed }) :=
  .guard h fun _ h => .guard h fun h1 h => .succeed h fun hs _ => ⟨Decidable.not_not.mp h1, hs⟩

theorem updateConnParams_cases {maxTime : Nat}
    (h : step s ⟨env, .updateConnParams maxTime⟩ = (s', out)) :
    Outcome s s' out (env.signer = authority ∧ s' = { s with maxExpectedTimePerBlock := maxTime }) :=
  .guard h fun _ h => .guard h fun h1 h => .succeed h fun hs _ => ⟨Decidable.not_not.mp h1, hs⟩

theorem ibcSoftwareUpgrade_cases {upgradeOK : Bool}
    (h : step s ⟨env, .ibcSoftwareUpgrade upgradeOK⟩ = (s', out)) : Outcome s s' out (env.signer = authority ∧ s' = s) :=
  .guard h fun _ h => .guard h fun h1 h => .guard h fun _ h => .succeed h fun hs _ => ⟨Decidable.not_not.mp h1, hs⟩

end IbcVerif.Chain
