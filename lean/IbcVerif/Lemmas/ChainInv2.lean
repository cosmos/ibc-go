/-
  Second layer of history invariants (ordered delivery, send sequences, acknowledgement /
  asynchronous-packet lifecycle), again derived from `Tr` only.
-/
import IbcVerif.Lemmas.ChainInv
namespace IbcVerif.Chain
open FMap

/-- sequences delivered to the application on the v1 channel end `(p, c)`, in log order -/
def recvSeqs (p c : Id) : List Event → List Nat
  | [] => []
  | .recv1 p' c' q :: l => if p' = p ∧ c' = c then q :: recvSeqs p c l else recvSeqs p c l
  | _ :: l => recvSeqs p c l

/-- sequences whose acknowledgement was processed by the sending application on `(p, c)` -/
def ackSeqs (p c : Id) : List Event → List Nat
  | [] => []
  | .ack1 p' c' q _ :: l => if p' = p ∧ c' = c then q :: ackSeqs p c l else ackSeqs p c l
  | _ :: l => ackSeqs p c l

/-- sequences returned by successful sends (v1 and v2) on identifier `id` -/
def sendSeqs (id : Id) : List Event → List Nat
  | [] => []
  | .send1 _ c q :: l => if c = id then q :: sendSeqs id l else sendSeqs id l
  | .send2 c q _ :: l => if c = id then q :: sendSeqs id l else sendSeqs id l
  | _ :: l => sendSeqs id l

theorem recvSeqs_append (p c : Id) (l1 l2 : List Event) : recvSeqs p c (l1 ++ l2) = recvSeqs p c l1 ++ recvSeqs p c l2 := by
  induction l1 with
  | nil => rfl
  | cons e l ih => cases e <;> simp [recvSeqs, ih]; split <;> simp

theorem ackSeqs_append (p c : Id) (l1 l2 : List Event) : ackSeqs p c (l1 ++ l2) = ackSeqs p c l1 ++ ackSeqs p c l2 := by
  induction l1 with
  | nil => rfl
  | cons e l ih => cases e <;> simp [ackSeqs, ih]; split <;> simp

theorem sendSeqs_append (id : Id) (l1 l2 : List Event) : sendSeqs id (l1 ++ l2) = sendSeqs id l1 ++ sendSeqs id l2 := by
  induction l1 with
  | nil => rfl
  | cons e l ih => cases e <;> simp [sendSeqs, ih] <;> split <;> simp

theorem seqs_nil {g : List Event → List Nat} (happ : ∀ l1 l2, g (l1 ++ l2) = g l1 ++ g l2) {l : List Event}
    (h : ∀ e ∈ l, g [e] = []) : g l = [] := by
  induction l with
  | nil => exact List.self_eq_append_right.mp (happ [] [])
  | cons e l ih =>
    rw [← List.singleton_append, happ, h e List.mem_cons_self, ih fun x hx => h x (List.mem_cons_of_mem _ hx)]
    rfl

/-- a counter (`o'` after the step) whose increments are recorded in the log, read off event by event by `g`:
    "the recorded sequences are `1 … n-1` while the counter is `n`" survives a step -/
theorem seqs_step {g : List Event → List Nat} (happ : ∀ l1 l2, g (l1 ++ l2) = g l1 ++ g l2) {s s' : ChainState}
    (ht : Tr s s') {o' : Option Nat} {n : Nat} (h1 : 1 ≤ n) (hseq : g s.log = List.range' 1 (n - 1))
    (hkeep : o' = some n → ∀ e, s'.log = s.log ++ [e] → EvOK s s' e → g [e] = [])
    (hcnt : o' = some n ∨ (o' = some (n + 1) ∧ ∃ e, s'.log = s.log ++ [e] ∧ g [e] = [n])) :
    ∃ n', o' = some n' ∧ 1 ≤ n' ∧ g s'.log = List.range' 1 (n' - 1) := by
  rcases hcnt with hc | ⟨hc, e, hl, hg⟩
  · refine ⟨n, hc, h1, ?_⟩
    rcases ht.log with hl | ⟨e, hl, hev⟩
    · rw [hl]; exact hseq
    · rw [hl, happ, hkeep hc e hl hev, List.append_nil]; exact hseq
  · refine ⟨n + 1, hc, by omega, ?_⟩
    have : n + 1 - 1 = (n - 1) + 1 := by omega
    rw [hl, happ, hseq, hg, this, List.range'_concat]
    congr 2; omega

structure Inv2 (s : ChainState) : Prop where
  -- C02
  ordRecv : ∀ p c ch, s.chan.get (p, c) = some ch → ch.ordering = .ordered →
      ∃ n, s.nextRecv.get (p, c) = some n ∧ 1 ≤ n ∧ recvSeqs p c s.log = List.range' 1 (n - 1)
  ordAck : ∀ p c ch, s.chan.get (p, c) = some ch → ch.ordering = .ordered →
      ∃ n, s.nextAck.get (p, c) = some n ∧ 1 ≤ n ∧ ackSeqs p c s.log = List.range' 1 (n - 1)
  -- C08
  nsShape : ∀ id, s.nextSend.get id ≠ none → (∃ p, s.chan.get (p, id) ≠ none) ∨ s.cpV2.get id ≠ none
  sendEv : ∀ id q e, e ∈ s.log → e.isSend id q = true → s.nextSend.get id ≠ none
  sendSeq : ∀ id n, s.nextSend.get id = some n → 1 ≤ n ∧ sendSeqs id s.log = List.range' 1 (n - 1)
  -- C11
  ackRc : ∀ k, s.ackV2.get k ≠ none → s.receiptV2.get k ≠ none
  asyncKey : ∀ k p, s.asyncV2.get k = some p → (p.dst, p.seq) = k
  asyncRc : ∀ k, s.asyncV2.get k ≠ none → s.receiptV2.get k ≠ none ∧ s.ackV2.get k = none

theorem Inv2.init : Inv2 Chain.init := by
  constructor <;> intros <;> simp_all [Chain.init, FMap.get_empty]

theorem Inv2.step {s s' : ChainState} (hi : Inv s) (h2 : Inv2 s) (ht : Tr s s') : Inv2 s' := by
  constructor
  · intro p c ch' hc' ho'
    cases hs : s.chan.get (p, c) with
    | none =>
      obtain ⟨_, _, _, hnr, _, _⟩ := ht.chanNew p c ch' hs hc'
      refine ⟨1, hnr, Nat.le_refl 1, seqs_nil (recvSeqs_append p c) fun e he => ?_⟩
      -- a delivery on (p, c) would need the channel in s
      cases e <;> simp [recvSeqs]
      rename_i p' c' q
      rintro rfl rfl
      rcases log_cases ht he with hold | ⟨_, hev⟩
      · obtain ⟨ch0, h0, _⟩ := hi.recv1 _ _ q hold
        cases hs.symm.trans h0
      · obtain ⟨ch0, h0, _⟩ := hev
        cases hs.symm.trans h0
    | some ch =>
      obtain ⟨ch2, hc2, ho2⟩ := chan_persists hi ht hs
      cases hc'.symm.trans hc2
      have ho : ch.ordering = .ordered := ho2 ▸ ho'
      obtain ⟨n, hn, h1, hseq⟩ := h2.ordRecv p c ch hs ho
      refine seqs_step (recvSeqs_append p c) ht h1 hseq (fun h e _ hev => ?_) ?_
      · cases e <;> simp [recvSeqs]
        rename_i p' c' q
        rintro rfl rfl
        obtain ⟨ch0, h0, _, _, hcase⟩ := hev
        cases hs.symm.trans h0
        rcases hcase with ⟨hu, _⟩ | ⟨_, hq, hq'⟩
        · rw [ho] at hu; cases hu
        · cases hn.symm.trans hq
          cases h.symm.trans hq'
      · rcases ht.nextRecv p c n hn with h | ⟨h, hl⟩ | h
        · exact .inl h
        · exact .inr ⟨h, _, hl, by simp [recvSeqs]⟩
        · exact absurd h (chan_fresh hi hs)
  · intro p c ch' hc' ho'
    cases hs : s.chan.get (p, c) with
    | none =>
      obtain ⟨_, _, _, _, hna, _⟩ := ht.chanNew p c ch' hs hc'
      refine ⟨1, hna, Nat.le_refl 1, seqs_nil (ackSeqs_append p c) fun e he => ?_⟩
      cases e <;> simp [ackSeqs]
      rename_i p' c' q a
      rintro rfl rfl
      rcases log_cases ht he with hold | ⟨_, hev⟩
      · exact (hi.term1 _ _ q _ hold (by simp [Event.isTerm1])).2.2 hs
      · obtain ⟨ch0, h0, _⟩ := hev
        cases hs.symm.trans h0
    | some ch =>
      obtain ⟨ch2, hc2, ho2⟩ := chan_persists hi ht hs
      cases hc'.symm.trans hc2
      have ho : ch.ordering = .ordered := ho2 ▸ ho'
      obtain ⟨n, hn, h1, hseq⟩ := h2.ordAck p c ch hs ho
      refine seqs_step (ackSeqs_append p c) ht h1 hseq (fun h e _ hev => ?_) ?_
      · cases e <;> simp [ackSeqs]
        rename_i p' c' q a
        rintro rfl rfl
        obtain ⟨ch0, h0, _, _, _, _, hord⟩ := hev
        cases hs.symm.trans h0
        obtain ⟨hq, hq'⟩ := hord ho
        cases hn.symm.trans hq
        cases h.symm.trans hq'
      · rcases ht.nextAck p c n hn with h | ⟨h, a, hl⟩ | h
        · exact .inl h
        · exact .inr ⟨h, _, hl, by simp [ackSeqs]⟩
        · exact absurd h (chan_fresh hi hs)
  · intro id h'
    have keep : (∃ p, s.chan.get (p, id) ≠ none) ∨ s.cpV2.get id ≠ none →
        (∃ p, s'.chan.get (p, id) ≠ none) ∨ s'.cpV2.get id ≠ none := by
      rintro (⟨p, hp⟩ | h)
      · exact .inl ⟨p, chan_mono hi ht hp⟩
      · exact .inr (ht.cpV2 id h)
    by_cases hs : s.nextSend.get id = none
    · obtain ⟨n, hn⟩ := Option.ne_none_iff_exists'.mp h'
      exact (ht.nextSendNew id n hs hn).2.2
    · exact keep (h2.nsShape id hs)
  · intro id q e hx hse
    rcases log_cases ht hx with hold | ⟨_, hev⟩
    · have h0 := h2.sendEv id q e hold hse
      obtain ⟨n, hn⟩ := Option.ne_none_iff_exists'.mp h0
      rcases nextSend_mono hi ht hn (h2.nsShape id h0) with h | ⟨h, _⟩ <;> rw [h] <;> simp
    · rcases Event.isSend_iff.mp hse with ⟨p, rfl⟩ | ⟨m, rfl⟩ <;> rw [hev.2] <;> simp
  · intro id n' hn'
    cases hs : s.nextSend.get id with
    | none =>
      obtain ⟨rfl, _, _⟩ := ht.nextSendNew id n' hs hn'
      refine ⟨Nat.le_refl 1, seqs_nil (sendSeqs_append id) fun e he => ?_⟩
      -- a send on `id` would need its counter in s
      have hno : ∀ q, e.isSend id q = true → False := fun q hq => by
        rcases log_cases ht he with hold | ⟨_, hev⟩
        · exact h2.sendEv id q e hold hq hs
        · rcases Event.isSend_iff.mp hq with ⟨p, rfl⟩ | ⟨m, rfl⟩ <;> cases hs.symm.trans hev.1
      cases e <;> simp [sendSeqs]
      · rename_i c q m
        rintro rfl
        exact hno q (by simp [Event.isSend])
      · rename_i p c q
        rintro rfl
        exact hno q (by simp [Event.isSend])
    | some n =>
      obtain ⟨h1, hseq⟩ := h2.sendSeq id n hs
      refine (seqs_step (o' := s'.nextSend.get id) (sendSeqs_append id) ht h1 hseq ?_ ?_).elim fun _ ⟨hn'', h⟩ =>
        Option.some.inj (hn''.symm.trans hn') ▸ h
      · intro h e _ hev
        cases e <;> simp [sendSeqs]
        · rintro rfl
          cases hs.symm.trans hev.1
          cases h.symm.trans hev.2
        · rintro rfl
          cases hs.symm.trans hev.1
          cases h.symm.trans hev.2
      · rcases nextSend_mono hi ht hs (h2.nsShape id (by simp [hs])) with h | ⟨h, e, hl, hse⟩
        · exact .inl h
        · refine .inr ⟨h, e, hl, ?_⟩
          rcases Event.isSend_iff.mp hse with ⟨p, rfl⟩ | ⟨m, rfl⟩ <;> simp [sendSeqs]
  · intro k h'
    by_cases hs : s.ackV2.get k = none
    · exact (ht.ackV2New k hs h').1
    · exact ht.receiptV2 k (h2.ackRc k hs)
  · intro k p h'
    cases hs : s.asyncV2.get k with
    | none => exact (ht.asyncNew k p hs h').1
    | some p0 =>
      have hk0 := h2.asyncKey k p0 hs
      rcases ht.asyncOld k p0 hs with h | ⟨h, _⟩ | h
      · rw [h'] at h; cases h; exact hk0
      · rw [h'] at h; cases h
      · exact absurd h (h2.asyncRc k (by simp [hs])).1
  · intro k h'
    obtain ⟨p, hp⟩ := Option.ne_none_iff_exists'.mp h'
    cases hs : s.asyncV2.get k with
    | none =>
      obtain ⟨_, hr0, hr, hack⟩ := ht.asyncNew k p hs hp
      refine ⟨hr, ?_⟩
      rw [hack]
      exact Classical.byContradiction fun ha => h2.ackRc k ha hr0
    | some p0 =>
      obtain ⟨hr, ha⟩ := h2.asyncRc k (by simp [hs])
      refine ⟨ht.receiptV2 k hr, ?_⟩
      refine Classical.byContradiction fun ha' => ?_
      rcases (ht.ackV2New k ha ha').2 with h | h | ⟨k', p', hk', hne⟩
      · exact h' h
      · exact hr h
      · exact hne (h2.asyncKey k' p' hk')

theorem inv2_run_init (ops : List Op) : Inv2 (Chain.run Chain.init ops) :=
  (run_preserves (P := fun s => Inv s ∧ Inv2 s) (fun _ _ ht h => ⟨h.1.step ht, h.2.step h.1 ht⟩) _ ops
    ⟨Inv.init, Inv2.init⟩).2

end IbcVerif.Chain
