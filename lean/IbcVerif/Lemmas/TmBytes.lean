/-
  The iteration key `BE(revision) ++ BE(height)` is order-isomorphic to the height order, for every
  pair of 64-bit values (nothing about the byte values is assumed: 0x2F, 0xFF, 0x00 are like any other).
-/
import IbcVerif.Lemmas.TmMap
import IbcVerif.Lemmas.Bytes
namespace IbcVerif.Tm
open IbcVerif

theorem u8_lt_ofNat (x y : Nat) (hx : x < 256) (hy : y < 256) : (UInt8.ofNat x < UInt8.ofNat y) ↔ x < y := by
  rw [UInt8.lt_iff_toNat_lt, UInt8.toNat_ofNat', UInt8.toNat_ofNat']
  rw [Nat.mod_eq_of_lt (by simpa using hx), Nat.mod_eq_of_lt (by simpa using hy)]

/-- value of a big-endian digit string -/
def beVal : List Nat → Nat
  | [] => 0
  | d :: ds => d * 256 ^ ds.length + beVal ds

theorem succ_mul_le {d e : Nat} (h : d < e) (B : Nat) : d * B + B ≤ e * B :=
  Nat.succ_mul d B ▸ Nat.mul_le_mul_right B h

theorem beVal_lt : ∀ (ds : List Nat), (∀ d ∈ ds, d < 256) → beVal ds < 256 ^ ds.length
  | [], _ => by simp [beVal]
  | d :: ds, h => by
    have ⟨hd, h'⟩ := List.forall_mem_cons.mp h
    have ih := beVal_lt ds h'
    have := succ_mul_le hd (256 ^ ds.length)
    simp only [beVal, List.length_cons, Nat.pow_succ]
    omega

theorem bytesLt_digits : ∀ (ds es : List Nat), ds.length = es.length → (∀ d ∈ ds, d < 256) → (∀ d ∈ es, d < 256) →
    (bytesLt (ds.map UInt8.ofNat) (es.map UInt8.ofNat) = true ↔ beVal ds < beVal es)
  | [], [], _, _, _ => by simp [bytesLt, beVal]
  | [], _ :: _, h, _, _ => by simp at h
  | _ :: _, [], h, _, _ => by simp at h
  | d :: ds, e :: es, hl, hd, he => by
    have hl' : ds.length = es.length := by simpa using hl
    have ⟨d256, hd'⟩ := List.forall_mem_cons.mp hd
    have ⟨e256, he'⟩ := List.forall_mem_cons.mp he
    have ih := bytesLt_digits ds es hl' hd' he'
    have vd := beVal_lt ds hd'
    have ve := beVal_lt es he'
    simp only [List.map_cons, bytesLt, beVal, u8_lt_ofNat _ _ d256 e256, u8_lt_ofNat _ _ e256 d256]
    rw [← hl'] at ve ⊢
    generalize 256 ^ ds.length = B at *
    rcases Nat.lt_trichotomy d e with c | rfl | c
    · have := succ_mul_le c B
      simp only [c, ↓reduceIte, true_iff]
      omega
    · simp only [Nat.lt_irrefl, ↓reduceIte, ih]
      omega
    · have := succ_mul_le c B
      simp only [Nat.lt_asymm c, c, ↓reduceIte, Bool.false_eq_true, false_iff]
      omega

def digits8 (n : Nat) : List Nat :=
  [n / 2^56 % 256, n / 2^48 % 256, n / 2^40 % 256, n / 2^32 % 256, n / 2^24 % 256, n / 2^16 % 256, n / 2^8 % 256, n % 256]

theorem be64_eq_digits (n : Nat) : be64 n = (digits8 n).map UInt8.ofNat := rfl

theorem digits8_lt (n : Nat) : ∀ d ∈ digits8 n, d < 256 := by
  intro d hd
  simp only [digits8, List.mem_cons, List.not_mem_nil, or_false] at hd
  rcases hd with h | h | h | h | h | h | h | h <;> rw [h] <;> exact Nat.mod_lt _ (by decide)

theorem beVal_digits8 (n : Nat) (h : n < 2^64) : beVal (digits8 n) = n := by
  simpa only [digits8, beVal, List.length_cons, List.length_nil, Nat.reduceAdd, Nat.reducePow, Nat.mul_one,
    Nat.add_zero, Nat.add_assoc] using be64_sum n h

theorem bytesLt_be64 (a b : Nat) (ha : a < 2^64) (hb : b < 2^64) : bytesLt (be64 a) (be64 b) = true ↔ a < b := by
  have := bytesLt_digits (digits8 a) (digits8 b) rfl (digits8_lt a) (digits8_lt b)
  rw [beVal_digits8 a ha, beVal_digits8 b hb] at this
  exact this

theorem bytesLt_append : ∀ (a a' b b' : Bytes), a.length = a'.length →
    bytesLt (a ++ b) (a' ++ b') = (if bytesLt a a' then true else if bytesLt a' a then false else bytesLt b b')
  | [], [], b, b', _ => by simp [bytesLt]
  | [], _ :: _, _, _, h => by simp at h
  | _ :: _, [], _, _, h => by simp at h
  | x :: xs, y :: ys, b, b', h => by
    have ih := bytesLt_append xs ys b b' (by simpa using h)
    simp only [List.cons_append, bytesLt]
    by_cases h1 : x < y
    · simp [h1]
    · by_cases h2 : y < x
      · simp [h1, h2]
      · simp [h1, h2, ih]

theorem bytesLt_irrefl : ∀ (a : Bytes), bytesLt a a = false
  | [] => rfl
  | x :: xs => by simp [bytesLt, UInt8.lt_irrefl, bytesLt_irrefl xs]

theorem beHeight_length (h : Height) : (beHeight h).length = 16 := rfl

/-- **big-endian iteration order = height order**, for all revisions and heights -/
theorem bytesLt_beHeight (a b : Height) : bytesLt (beHeight a) (beHeight b) = true ↔ hk a < hk b := by
  have ar := UInt64.toNat_lt a.rev
  have ah := UInt64.toNat_lt a.h
  have br := UInt64.toNat_lt b.rev
  have bh := UInt64.toNat_lt b.h
  unfold beHeight hk
  rw [bytesLt_append _ _ _ _ (be64_length _)]
  by_cases c1 : a.rev.toNat < b.rev.toNat
  · rw [if_pos ((bytesLt_be64 _ _ ar br).mpr c1)]; simp only [true_iff]; omega
  · rw [if_neg (mt (bytesLt_be64 _ _ ar br).mp c1)]
    by_cases c2 : b.rev.toNat < a.rev.toNat
    · rw [if_pos ((bytesLt_be64 _ _ br ar).mpr c2)]; simp only [Bool.false_eq_true, false_iff]; omega
    · rw [if_neg (mt (bytesLt_be64 _ _ br ar).mp c2), bytesLt_be64 _ _ ah bh]; omega

theorem beHeight_inj {a b : Height} (h : beHeight a = beHeight b) : a = b := by
  unfold beHeight at h
  have ⟨h1, h2⟩ := List.append_inj h (by simp [be64_length])
  have r := be64_inj (UInt64.toNat_lt a.rev) (UInt64.toNat_lt b.rev) h1
  have hh := be64_inj (UInt64.toNat_lt a.h) (UInt64.toNat_lt b.h) h2
  exact (Height.ext_toNat a b).mpr ⟨r, hh⟩

/-- `GetHeightFromIterationKey (IterationKey h) = h` -/
theorem heightFromKey_beHeight (h : Height) : heightFromKey (beHeight h) = h := by
  unfold heightFromKey beHeight
  have l : (be64 h.rev.toNat).length = 8 := be64_length _
  rw [List.take_left' l, List.drop_left' l]
  rw [unbe64_be64 _ (UInt64.toNat_lt h.rev), unbe64_be64 _ (UInt64.toNat_lt h.h)]
  simp

end IbcVerif.Tm
