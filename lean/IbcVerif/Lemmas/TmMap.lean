/-
  Lemmas for the association-list maps of the 07-tendermint model, and the numeric key of a height.
-/
import IbcVerif.Model.TmSpec
import IbcVerif.Lemmas.Height
namespace IbcVerif.Tm
open IbcVerif

namespace FMap
variable {κ α : Type} [DecidableEq κ]

@[simp] theorem get_nil (k : κ) : FMap.get ([] : FMap κ α) k = none := rfl

theorem get_cons (k' : κ) (v : α) (r : FMap κ α) (k : κ) :
    FMap.get ((k', v) :: r) k = if k' = k then some v else FMap.get r k := rfl

theorem get_del (m : FMap κ α) (k k' : κ) :
    FMap.get (FMap.del m k) k' = if k = k' then none else FMap.get m k' := by
  induction m with
  | nil => simp [FMap.del]
  | cons p r ih =>
    obtain ⟨a, b⟩ := p
    unfold FMap.del at ih ⊢
    by_cases h1 : a = k
    · subst h1
      simp only [List.filter_cons, decide_true, Bool.not_true, Bool.false_eq_true, ↓reduceIte]
      rw [ih]
      by_cases h2 : a = k'
      · simp [h2]
      · simp [h2, get_cons]
    · simp only [List.filter_cons, h1, decide_false, Bool.not_false, ↓reduceIte, get_cons]
      rw [ih]
      by_cases h2 : a = k'
      · subst h2; simp [Ne.symm h1]
      · simp [h2]

theorem get_set (m : FMap κ α) (k : κ) (v : α) (k' : κ) :
    FMap.get (FMap.set m k v) k' = if k = k' then some v else FMap.get m k' := by
  unfold FMap.set
  rw [get_cons, get_del]
  by_cases h : k = k' <;> simp [h]

theorem get_set_self (m : FMap κ α) (k : κ) (v : α) : FMap.get (FMap.set m k v) k = some v := by
  simp [get_set]

theorem get_set_ne (m : FMap κ α) (k k' : κ) (v : α) (h : k ≠ k') : FMap.get (FMap.set m k v) k' = FMap.get m k' := by
  simp [get_set, h]

theorem get_del_self (m : FMap κ α) (k : κ) : FMap.get (FMap.del m k) k = none := by
  simp [get_del]

theorem get_del_ne (m : FMap κ α) (k k' : κ) (h : k ≠ k') : FMap.get (FMap.del m k) k' = FMap.get m k' := by
  simp [get_del, h]

theorem isSome_get_set (m : FMap κ α) (k : κ) (v : α) (k' : κ) :
    (FMap.get (FMap.set m k v) k').isSome = true ↔ (k = k' ∨ (FMap.get m k').isSome = true) := by
  rw [get_set]; split <;> simp [*]

theorem isSome_get_del (m : FMap κ α) (k k' : κ) :
    (FMap.get (FMap.del m k) k').isSome = true ↔ (k ≠ k' ∧ (FMap.get m k').isSome = true) := by
  rw [get_del]; split <;> simp [*]

end FMap

theorem hk_inj {a b : Height} : hk a = hk b ↔ a = b := by
  rw [Height.ext_toNat]
  unfold hk
  have h1 := UInt64.toNat_lt a.h
  have h2 := UInt64.toNat_lt b.h
  constructor
  · intro h; omega
  · intro ⟨h, h'⟩; rw [h, h']

theorem lt_iff_hk (a b : Height) : Height.lt a b = true ↔ hk a < hk b := by
  have := UInt64.toNat_lt a.h; have := UInt64.toNat_lt b.h
  rw [Height.lt_iff]; unfold hk; omega

theorem gt_iff_hk (a b : Height) : Height.gt a b = true ↔ hk b < hk a :=
  Height.gt_eq_lt a b ▸ lt_iff_hk b a

theorem lte_iff_hk (a b : Height) : Height.lte a b = true ↔ hk a ≤ hk b := by
  have := UInt64.toNat_lt a.h; have := UInt64.toNat_lt b.h
  rw [Height.lte_iff]; unfold hk; omega

theorem gte_iff_hk (a b : Height) : Height.gte a b = true ↔ hk b ≤ hk a :=
  Height.gte_eq_lte a b ▸ lte_iff_hk b a

theorem eq_iff_hk (a b : Height) : Height.eq a b = true ↔ hk a = hk b :=
  (Height.eq_iff a b).trans hk_inj.symm

theorem lt_eq_false_iff_hk (a b : Height) : Height.lt a b = false ↔ hk b ≤ hk a := by
  rw [← Bool.not_eq_true, lt_iff_hk, Nat.not_lt]

theorem gte_eq_false_iff_hk (a b : Height) : Height.gte a b = false ↔ hk a < hk b := by
  rw [← Bool.not_eq_true, gte_iff_hk, Nat.not_le]

theorem isZero_iff_hk (a : Height) : a.isZero = true ↔ hk a = 0 := by
  rw [Height.isZero_iff]; unfold hk; omega

end IbcVerif.Tm
