/-
  The v2 receive path in detail (C10): the payload loop of RecvPacket, round by round, and what a committed receive leaves behind.
-/
import IbcVerif.Lemmas.ChainOk
namespace IbcVerif.Chain
open FMap

/-- one round of the loop that did not fail the transaction: the payload's callback failed and the
    loop stops with the sentinel acknowledgement, or its acknowledgement is appended and the loop
    goes on (an asynchronous result only for single-payload packets) -/
theorem recvLoop_cons {tag : String} {np i : Nat} {pd : Payload} {pds : List Payload} {apps : List AppV2}
    {st r : RecvLoop} (h : recvLoop tag np i (pd :: pds) apps st = .ok r) :
    (r.acks = [sentinelAck] ∧ r.isSuccess = false ∧ r.isAsync = st.isAsync) ∨
    ∃ st' : RecvLoop, recvLoop tag np (i + 1) pds apps.tail st' = .ok r ∧ st'.isSuccess = st.isSuccess ∧
      (∃ a, a ≠ sentinelAck ∧ st'.acks = st.acks ++ [a]) ∧
      (st'.isAsync = st.isAsync ∨ (st'.isAsync = true ∧ np ≤ 1)) := by
  unfold recvLoop at h
  simp only at h
  obtain ⟨_, h⟩ := ok_ite And.intro h
  split at h
  · cases h; exact .inl ⟨rfl, rfl, rfl⟩
  · obtain ⟨hs, h⟩ := ok_ite And.intro h
    split at h
    · obtain ⟨hn, h⟩ := ok_ite And.intro h
      exact .inr ⟨_, h, rfl, ⟨_, hs, rfl⟩, .inr ⟨rfl, by omega⟩⟩
    · exact .inr ⟨_, h, rfl, ⟨_, hs, rfl⟩, .inl rfl⟩

theorem recvLoop_fail {tag : String} {np : Nat} :
    ∀ (pds : List Payload) (i : Nat) (apps : List AppV2) (st r : RecvLoop),
      recvLoop tag np i pds apps st = .ok r → st.isSuccess = true → r.isSuccess = false → r.acks = [sentinelAck]
  | [], _, _, st, r, h, hs, hr => by
    simp only [recvLoop, Except.ok.injEq] at h; subst h; rw [hs] at hr; cases hr
  | pd :: pds, i, apps, st, r, h, hs, hr => by
    rcases recvLoop_cons h with ⟨h1, _⟩ | ⟨st', h1, h2, _⟩
    · exact h1
    · exact recvLoop_fail pds _ _ st' r h1 (h2 ▸ hs) hr

theorem recvLoop_success {tag : String} {np : Nat} :
    ∀ (pds : List Payload) (i : Nat) (apps : List AppV2) (st r : RecvLoop),
      recvLoop tag np i pds apps st = .ok r → r.isSuccess = true →
        r.acks.length = st.acks.length + pds.length ∧ ∀ a ∈ r.acks, a ∈ st.acks ∨ a ≠ sentinelAck
  | [], _, _, st, r, h, hr => by
    simp only [recvLoop, Except.ok.injEq] at h; subst h
    exact ⟨by simp, fun a ha => .inl ha⟩
  | pd :: pds, i, apps, st, r, h, hr => by
    rcases recvLoop_cons h with ⟨_, h1, _⟩ | ⟨st', h1, _, ⟨a0, hsent, h4⟩, _⟩
    · rw [hr] at h1; cases h1
    · obtain ⟨g2, g4⟩ := recvLoop_success pds _ _ st' r h1 hr
      refine ⟨by rw [g2, h4]; simp; omega, fun a ha => (g4 a ha).elim (fun h' => ?_) .inr⟩
      rw [h4] at h'
      rcases List.mem_append.mp h' with h'' | h''
      · exact .inl h''
      · cases List.mem_singleton.mp h''
        exact .inr hsent

theorem recvLoop_async {tag : String} {np : Nat} :
    ∀ (pds : List Payload) (i : Nat) (apps : List AppV2) (st r : RecvLoop),
      recvLoop tag np i pds apps st = .ok r → r.isAsync = true → st.isAsync = true ∨ np ≤ 1
  | [], _, _, st, r, h, hr => by
    simp only [recvLoop, Except.ok.injEq] at h; subst h; exact .inl hr
  | pd :: pds, i, apps, st, r, h, hr => by
    rcases recvLoop_cons h with ⟨_, _, h1⟩ | ⟨st', h1, _, _, h5⟩
    · exact .inl (h1 ▸ hr)
    · rcases recvLoop_async pds _ _ st' r h1 hr with h' | h'
      · rcases h5 with h5 | ⟨_, h5⟩
        · exact .inl (h5 ▸ h')
        · exact .inr h5
      · exact .inr h'

/-- a failure comes with an asynchronous result only if the loop started with one: an asynchronous
    payload is the only payload of its packet, so no later payload can fail -/
theorem recvLoop_fail_async {tag : String} {np : Nat} :
    ∀ (pds : List Payload) (i : Nat) (apps : List AppV2) (st r : RecvLoop),
      recvLoop tag np i pds apps st = .ok r → st.isSuccess = true → r.isSuccess = false → r.isAsync = true →
        st.isAsync = true ∨ (np ≤ 1 ∧ 2 ≤ pds.length)
  | [], _, _, st, r, h, hs, hr, _ => by
    simp only [recvLoop, Except.ok.injEq] at h; subst h; rw [hs] at hr; cases hr
  | pd :: pds, i, apps, st, r, h, hs, hr, ha => by
    rcases recvLoop_cons h with ⟨_, _, h1⟩ | ⟨st', h1, h2, _, h5⟩
    · exact .inl (h1 ▸ ha)
    · rcases recvLoop_fail_async pds _ _ st' r h1 (h2 ▸ hs) hr ha with h' | ⟨h', hl⟩
      · rcases h5 with h5 | ⟨_, h5⟩
        · exact .inl (h5 ▸ h')
        · refine .inr ⟨h5, ?_⟩
          cases pds with
          | nil =>
            simp only [recvLoop, Except.ok.injEq] at h1; subst h1
            rw [h2, hs] at hr; cases hr
          | cons _ _ => simp
      · exact .inr ⟨h', by simp; omega⟩

theorem recvV2_shape {s s' : ChainState} {env : Env} {p : PacketV2} {apps : List AppV2} {r : String}
    (h : step s ⟨env, .recvV2 p apps⟩ = (s', .ok r)) :
    ∃ rl, recvLoop env.tag p.payloads.length 0 p.payloads apps ⟨s.app, [], false, true, 0⟩ = .ok rl ∧
      s'.app = (if rl.isSuccess then rl.app else s.app) ∧
      s'.receiptV2 = s.receiptV2.set (p.dst, p.seq) () ∧
      ((rl.isAsync = false ∧ s'.ackV2 = s.ackV2.set (p.dst, p.seq) rl.acks ∧ s'.asyncV2 = s.asyncV2) ∨
       rl.isAsync = true) := by
  obtain ⟨s1, rl, c, h1, hl, rfl, hcase⟩ := (recvV2_cases h).ok rfl
  obtain ⟨_, rfl⟩ := recvPacketV2_ok h1
  refine ⟨rl, hl, ?_⟩
  rcases hcase with ⟨ha, hw⟩ | ⟨ha, rfl⟩
  · obtain ⟨_, _, _, _, rfl⟩ := writeAckV2_ok hw
    exact ⟨rfl, rfl, .inl ⟨ha, rfl, rfl⟩⟩
  · exact ⟨rfl, rfl, .inr ha⟩

end IbcVerif.Chain
