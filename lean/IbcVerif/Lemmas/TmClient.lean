/-
  Client- and world-level lemmas of the 07-tendermint model: what each keeper operation can do to a
  client store (the `*_cases` outcome lemmas), and that every operation preserves the store invariant.
-/
import IbcVerif.Lemmas.TmStore
import IbcVerif.Lemmas.Except
namespace IbcVerif.Tm
open IbcVerif

theorem err_ne (e : String) (t : String) (ht : t.length < 4) : "err:" ++ e ≠ t := by
  intro h
  have := congrArg String.length h
  rw [String.length_append] at this
  have l1 : "err:".length = 4 := by decide
  omega

theorem err_ne_of_head (e t : String) (h : t.toList.head? ≠ some 'e') : "err:" ++ e ≠ t := by
  intro hh
  apply h
  rw [← hh, String.toList_append]
  rfl

/-- one check of an operation: it answers with an error and the store as it was, or goes on -/
theorem ite_rej {p : Prop} [Decidable p] {s : Store} {e t : String} {r : Store × String} {Q : Prop}
    (h : ¬ p → (r.1 = s ∧ r.2 ≠ t) ∨ Q) (he : e ≠ t := by decide) :
    ((if p then (s, e) else r).1 = s ∧ (if p then (s, e) else r).2 ≠ t) ∨ Q := by
  split
  · exact .inl ⟨rfl, he⟩
  · exact h ‹_›

theorem client_put (w : World) (cid : Nat) (s : Store) (cid' : Nat) :
    (w.put cid s).client cid' = if cid = cid' then s else w.client cid' := by
  unfold World.client World.put
  simp only
  rw [FMap.get_set]
  by_cases e : cid = cid' <;> simp [e]

theorem client_put_self (w : World) (cid : Nat) (s : Store) : (w.put cid s).client cid = s :=
  (client_put ..).trans (if_pos rfl)

theorem client_put_ne (w : World) (cid cid' : Nat) (s : Store) (h : cid ≠ cid') :
    (w.put cid s).client cid' = w.client cid' :=
  (client_put ..).trans (if_neg h)

theorem storeInv_empty : StoreInv Store.empty :=
  ⟨metaInv_empty, fun _ h => (nomatch h), fun _ hh => (nomatch hh)⟩

theorem winv_empty : WInv World.empty := ⟨fun _ => storeInv_empty, fun _ _ => rfl⟩

/-- the acceptance conditions of `verifyHeader` (ibc-go's own checks; `valid` is CometBFT's verdict) -/
theorem verifyHeader_none_iff (s : Store) (hdr : Header) (valid : Bool) :
    verifyHeader s hdr valid = none ↔
      ∃ c, s.getCons hdr.trusted = some c ∧ hdr.tvals = some c.nvh ∧ hdr.height.rev = hdr.trusted.rev ∧
        hdr.parseOK = true ∧ hk hdr.trusted < hk hdr.height ∧ valid = true := by
  unfold verifyHeader checkTrustedHeader
  cases s.getCons hdr.trusted with
  | none => simp
  | some c =>
    cases hdr.tvals with
    | none => simp
    | some tv =>
      by_cases e1 : tv = c.nvh
      · by_cases e2 : hdr.height.rev = hdr.trusted.rev <;> simp [e1, e2, lte_iff_hk, some_else_eq_none]
      · simp [e1]

theorem storeInv_freeze (s : Store) (cs : ClientState) (hs : StoreInv s) (hc : s.client = some cs) :
    StoreInv (freeze cs s) :=
  ⟨metaInv_client s _ hs.metaInv, fun _ e h hh => Option.some.inj e ▸ hs.below cs hc h hh, fun _ _ => rfl⟩

theorem storeInv_delete (s : Store) (hs : StoreInv s) (h : Height) : StoreInv ((s.delCons h).delMeta h) := by
  refine ⟨metaInv_delete s hs.metaInv h, ?_, ?_⟩
  · intro cs e h' hh'
    exact hs.below cs e h' ((has_delete s h h').mp hh').2
  · intro h' hh'
    exact hs.hasClient h' ((has_delete s h h').mp hh').2

theorem storeInv_insert (s : Store) (hs : StoreInv s) (cs' : ClientState) (h : Height) (c : ConsState) (ph : Height) (pt : Nat)
    (hle : hk h ≤ hk cs'.latest) (hmono : ∀ cs, s.client = some cs → hk cs.latest ≤ hk cs'.latest) :
    StoreInv ((({ s with client := some cs' }).setCons h c).setMeta h ph pt) := by
  refine ⟨metaInv_insert _ (metaInv_client s _ hs.metaInv) h c ph pt, ?_, fun _ _ => rfl⟩
  intro cs2 e h' hh'
  cases e
  rcases (has_insert _ h c ph pt h').mp hh' with e' | e'
  · rw [← e']; exact hle
  · obtain ⟨cs0, hcs⟩ := Option.isSome_iff_exists.mp (hs.hasClient h' e')
    exact Nat.le_trans (hs.below cs0 hcs h' e') (hmono cs0 hcs)

/-- `s'` is `s`, or `s` with a new client state and one consensus state written strictly above the old
    latest height: all that upgrade and recovery can do to a store -/
def WritesAbove (s s' : Store) : Prop :=
  s' = s ∨ ∃ cs cs' c ph pt, s.client = some cs ∧ hk cs.latest < hk cs'.latest ∧
    s' = (({ s with client := some cs' }).setCons cs'.latest c).setMeta cs'.latest ph pt

theorem WritesAbove.inv {s s' : Store} (h : WritesAbove s s') (hs : StoreInv s) : StoreInv s' := by
  rcases h with rfl | ⟨cs, cs', c, ph, pt, hc, hlt, rfl⟩
  · exact hs
  · exact storeInv_insert s hs _ _ _ _ _ (Nat.le_refl _) fun cs0 e0 => by
      rw [hc] at e0; cases e0; exact Nat.le_of_lt hlt

/-- `s1` is `s` after `pruneOldestConsensusState`: still consistent, and nothing is gone but, possibly,
    the oldest consensus state, which had expired -/
structure Pruned (tp now : Int) (s s1 : Store) : Prop where
  inv : StoreInv s1
  client : s1.client = s.client
  sub : ∀ h c, s1.getCons h = some c → s.getCons h = some c
  kept : ∀ h c, s.getCons h = some c →
    s1.getCons h = some c ∨ (s1.getCons h = none ∧ IsOldest s h ∧ isExpired tp c.ts now = true)

theorem pruned_has {tp now : Int} {s s1 : Store} (pr : Pruned tp now s s1) {h : Height} (hh : s1.has h) : s.has h :=
  let ⟨c, hc⟩ := getCons_of_has hh
  has_of_getCons (pr.sub h c hc)

theorem pruned_kept_above {tp now : Int} {s s1 : Store} (pr : Pruned tp now s s1) {t h : Height} {c : ConsState}
    (ht : s.has t) (lt : hk t < hk h) (e : s.getCons h = some c) : s1.getCons h = some c :=
  (pr.kept h c e).resolve_right fun ⟨_, ho, _⟩ => by have := ho.2 t ht; omega

theorem pruneOldest_pruned (s : Store) (hs : StoreInv s) (tp now : Int) :
    ∃ s1, s.pruneOldest tp now = some s1 ∧ Pruned tp now s s1 := by
  rcases pruneOldest_spec s hs.metaInv tp now with ⟨m, cm, ho, hcm, hexp, hp⟩ | ⟨hp, _⟩
  · refine ⟨_, hp, storeInv_delete s hs m, rfl, fun h c e => ?_, fun h c e => ?_⟩
    · rw [getCons_delete] at e
      split at e
      · cases e
      · exact e
    · rw [getCons_delete]
      by_cases eq : m = h
      · subst eq; rw [hcm] at e; cases e
        exact .inr ⟨if_pos rfl, ho, hexp⟩
      · exact .inl ((if_neg eq).trans e)
  · exact ⟨s, hp, hs, rfl, fun _ _ e => e, fun _ _ e => .inl e⟩

/-- outcome of `Keeper.UpdateClient` on a consistent store -/
theorem updateStore_cases (s : Store) (hs : StoreInv s) (now : Int) (self : Height) (hdr : Header) (valid : Bool) :
    -- rejected: nothing written
    ((updateStore s now self hdr valid).1 = s ∧ (s.status now ≠ .active ∨ verifyHeader s hdr valid ≠ none) ∧
      (updateStore s now self hdr valid).2 ≠ "updated" ∧ (updateStore s now self hdr valid).2 ≠ "frozen") ∨
    (∃ cs, s.client = some cs ∧ s.status now = .active ∧ verifyHeader s hdr valid = none ∧
      -- frozen: only the client state changes
      ((checkHeaderMisbehaviour s hdr = true ∧ updateStore s now self hdr valid = (freeze cs s, "frozen")) ∨
      -- accepted: prune the oldest if expired, then no-op on a duplicate or store the new consensus state
       (checkHeaderMisbehaviour s hdr = false ∧ ∃ s1, s.pruneOldest cs.trustingPeriod now = some s1 ∧
          Pruned cs.trustingPeriod now s s1 ∧
          ((s1.has hdr.height ∧ updateStore s now self hdr valid = (s1, "updated")) ∨
           (¬ s1.has hdr.height ∧ updateStore s now self hdr valid =
              ((({ s1 with client := some (if hdr.height.gt cs.latest then { cs with latest := hdr.height } else cs) }).setCons
                  hdr.height hdr.cons).setMeta hdr.height self now.toNat, "updated")))))) := by
  unfold updateStore
  by_cases hst : s.status now = .active
  · cases hc : s.client with
    | none => unfold Store.status at hst; rw [hc] at hst; cases hst
    | some cs =>
      cases hv : verifyHeader s hdr valid with
      | some e => left; simp [hst, err_ne_of_head e "updated" (by decide), err_ne_of_head e "frozen" (by decide)]
      | none =>
        right
        refine ⟨cs, rfl, hst, rfl, ?_⟩
        cases hm : checkHeaderMisbehaviour s hdr with
        | true => exact .inl ⟨rfl, by simp [hst]⟩
        | false =>
          obtain ⟨s1, hp, pr⟩ := pruneOldest_pruned s hs cs.trustingPeriod now
          refine .inr ⟨rfl, s1, hp, pr, ?_⟩
          unfold updateState
          simp only [hst, ne_eq, not_true_eq_false, ↓reduceIte, Bool.false_eq_true, hp]
          cases hg : s1.getCons hdr.height with
          | some c => exact .inl ⟨has_of_getCons hg, rfl⟩
          | none => exact .inr ⟨fun hh => (by rw [Store.has, hg] at hh; cases hh), rfl⟩
  · left
    simp [hst]

theorem updateStore_frozen {s : Store} {now : Int} {self : Height} {hdr : Header} {valid : Bool} {cs : ClientState}
    (hc : s.client = some cs) (hact : s.status now = .active) (hv : verifyHeader s hdr valid = none)
    (hm : checkHeaderMisbehaviour s hdr = true) : updateStore s now self hdr valid = (freeze cs s, "frozen") := by
  simp [updateStore, hc, hact, hv, hm]

/-- freezing touches no consensus state -/
theorem freeze_getCons (cs : ClientState) (s : Store) (h : Height) : (freeze cs s).getCons h = s.getCons h := rfl

theorem updateStore_inv (s : Store) (hs : StoreInv s) (now : Int) (self : Height) (hdr : Header) (valid : Bool) :
    StoreInv (updateStore s now self hdr valid).1 := by
  rcases updateStore_cases s hs now self hdr valid with
    ⟨e, _⟩ | ⟨cs, hc, _, hv, ⟨_, e⟩ | ⟨_, s1, _, pr, ⟨_, e⟩ | ⟨_, e⟩⟩⟩ <;> rw [e]
  · exact hs
  · exact storeInv_freeze s cs hs hc
  · exact pr.inv
  · have g := gt_iff_hk hdr.height cs.latest
    apply storeInv_insert s1 pr.inv
    · split
      · exact Nat.le_refl _
      · have : ¬ hk cs.latest < hk hdr.height := fun c => ‹¬ _› (g.mpr c)
        show hk hdr.height ≤ hk cs.latest
        omega
    · intro cs0 e0
      rw [pr.client, hc] at e0; cases e0
      split
      · exact Nat.le_of_lt (g.mp ‹_›)
      · exact Nat.le_refl _

theorem misbehaviourStore_cases (s : Store) (now : Int) (m : Misbehaviour) (v1 v2 : Bool) :
    ((misbehaviourStore s now m v1 v2).1 = s ∧ (misbehaviourStore s now m v1 v2).2 ≠ "frozen") ∨
    ∃ cs, s.client = some cs ∧ s.status now = .active ∧ m.validateBasic = true ∧
      verifyMisbehaviour cs s m now v1 v2 = none ∧ checkMisbehaviourMsg m = true ∧
      misbehaviourStore s now m v1 v2 = (freeze cs s, "frozen") := by
  unfold misbehaviourStore
  by_cases hb : m.validateBasic = true
  · by_cases hst : s.status now = .active
    · cases hc : s.client with
      | none => left; simp [hb, hst]
      | some cs =>
        cases hv : verifyMisbehaviour cs s m now v1 v2 with
        | some e => left; simp [hb, hst, hv, err_ne_of_head e "frozen" (by decide)]
        | none =>
          by_cases hm : checkMisbehaviourMsg m = true
          · right; exact ⟨cs, rfl, hst, hb, hv, hm, by simp [hb, hst, hv, hm]⟩
          · left; simp [hb, hst, hv, hm]
    · left; simp [hb, hst]
  · left; simp [hb]

theorem misbehaviourStore_frozen {s : Store} {now : Int} {m : Misbehaviour} {v1 v2 : Bool} {cs : ClientState}
    (hc : s.client = some cs) (hact : s.status now = .active) (hb : m.validateBasic = true)
    (hv : verifyMisbehaviour cs s m now v1 v2 = none) (hm : checkMisbehaviourMsg m = true) :
    misbehaviourStore s now m v1 v2 = (freeze cs s, "frozen") := by
  simp [misbehaviourStore, hb, hact, hc, hv, hm]

theorem misbehaviourStore_fst {P : Store → Prop} {s : Store} (now : Int) (m : Misbehaviour) (v1 v2 : Bool)
    (same : P s) (frozen : ∀ cs, s.client = some cs → P (freeze cs s)) : P (misbehaviourStore s now m v1 v2).1 := by
  rcases misbehaviourStore_cases s now m v1 v2 with ⟨e, _⟩ | ⟨cs, hc, _, _, _, _, e⟩ <;> rw [e]
  · exact same
  · exact frozen cs hc

/-- the client state written by a successful upgrade -/
def upgradedClient (cs : ClientState) (u : UpgradeReq) : ClientState :=
  { chainId := u.newClient.chainId, tlNum := cs.tlNum, tlDen := cs.tlDen,
    trustingPeriod := if u.newClient.unbondingPeriod < cs.unbondingPeriod then
        (calculateNewTrustingPeriod cs.trustingPeriod.toNat cs.unbondingPeriod.toNat u.newClient.unbondingPeriod.toNat : Int)
      else cs.trustingPeriod,
    unbondingPeriod := u.newClient.unbondingPeriod, maxClockDrift := cs.maxClockDrift,
    frozen := Height.zero, latest := u.newClient.latest, proofSpecs := u.newClient.proofSpecs,
    upgradePath := u.newClient.upgradePath, allowExpiry := false, allowMisb := false }

/-- the store written by a successful upgrade -/
def upgradedStore (cs : ClientState) (s : Store) (u : UpgradeReq) (now : Int) (self : Height) : Store :=
  (({ s with client := some (upgradedClient cs u) }).setCons (upgradedClient cs u).latest
      ⟨u.newCons.ts, sentinelRootHex, u.newCons.nvh⟩).setMeta u.newClient.latest self now.toNat

theorem upgradeStore_cases (s : Store) (now : Int) (self : Height) (u : UpgradeReq) :
    ((upgradeStore s now self u).1 = s ∧ (upgradeStore s now self u).2 ≠ "ok") ∨
    ∃ cs, s.client = some cs ∧ s.status now = .active ∧ u.clientBzOK = true ∧ u.consBzOK = true ∧
      hk cs.latest < hk u.newClient.latest ∧
      cs.upgradePath.isEmpty = false ∧ u.proofClientParse = true ∧ u.proofConsParse = true ∧
      u.proofClientOK = true ∧ u.proofConsOK = true ∧ (upgradedClient cs u).validate = none ∧
      upgradeStore s now self u = (upgradedStore cs s u now self, "ok") := by
  unfold upgradeStore
  refine ite_rej fun hst => ?_
  refine ite_rej fun h1 => ?_
  refine ite_rej fun h2 => ?_
  cases hc : s.client with
  | none => exact .inl (by simp)
  | some cs =>
    dsimp only
    refine ite_rej fun hg => ?_
    unfold verifyUpgradeAndUpdateState
    refine ite_rej fun a1 => ?_
    refine ite_rej fun a2 => ?_
    refine ite_rej fun a3 => ?_
    cases hg0 : s.getCons cs.latest with
    | none => exact .inl (by simp)
    | some c0 =>
      dsimp only
      refine ite_rej fun a5 => ?_
      refine ite_rej fun a6 => ?_
      cases hv : (upgradedClient cs u).validate with
      | some e => exact .inl (by unfold upgradedClient at hv; simp [hv, err_ne e "ok" (by decide)])
      | none =>
        simp only [ne_eq, Decidable.not_not, Bool.not_eq_true', Bool.not_eq_false, Bool.not_eq_true] at hst h1 h2 hg a1 a2 a3 a5 a6
        refine .inr ⟨cs, rfl, hst, h1, h2, (gt_iff_hk _ _).mp hg, a1, a2, a3, a5, a6, hv, ?_⟩
        unfold upgradedClient at hv
        simp [hst, h1, h2, hg, a1, a2, a3, a5, a6, hv, upgradedStore, upgradedClient]

theorem upgradeStore_above (s : Store) (now : Int) (self : Height) (u : UpgradeReq) :
    WritesAbove s (upgradeStore s now self u).1 := by
  rcases upgradeStore_cases s now self u with ⟨e, _⟩ | ⟨cs, hc, _, _, _, hlt, _, _, _, _, _, _, e⟩
  · exact .inl e
  · exact .inr ⟨cs, upgradedClient cs u, _, _, _, hc, hlt, by rw [e]; rfl⟩

/-- the client state written by a successful recovery -/
def recoveredClient (cs scs : ClientState) (wasFrozen : Bool) : ClientState :=
  { (if wasFrozen then { cs with frozen := Height.zero } else cs) with
      latest := scs.latest, chainId := scs.chainId, trustingPeriod := scs.trustingPeriod }

/-- the store written by a successful recovery -/
def recoveredStore (cs scs : ClientState) (sj : Store) (c : ConsState) (ph : Height) (pt : Nat) (now : Int) : Store :=
  (({ sj with client := some (recoveredClient cs scs (decide (sj.status now = Status.frozen))) }).setCons scs.latest c).setMeta scs.latest ph pt

theorem recoverStore_cases (sj sb : Store) (hb : MetaInv sb) (now : Int) :
    ((recoverStore sj sb now).1 = sj ∧ (recoverStore sj sb now).2 ≠ "ok") ∨
    ∃ cs scs c ph pt, sj.client = some cs ∧ sb.client = some scs ∧ sj.status now ≠ .active ∧ sb.status now = .active ∧
      hk cs.latest < hk scs.latest ∧ isMatchingClientState cs scs = true ∧
      sb.getCons scs.latest = some c ∧ sb.pheight.get scs.latest = some ph ∧ sb.ptime.get scs.latest = some pt ∧
      recoverStore sj sb now = (recoveredStore cs scs sj c ph pt now, "ok") := by
  unfold recoverStore
  refine ite_rej fun h1 => ?_
  refine ite_rej fun h2 => ?_
  refine ite_rej fun h3 => ?_
  cases hc : sj.client with
  | none => exact .inl (by simp)
  | some cs =>
    cases hsc : sb.client with
    | none => exact .inl (by simp)
    | some scs =>
      dsimp only
      unfold checkSubstituteAndUpdateState
      refine ite_rej fun hm => ?_
      cases hg : sb.getCons scs.latest with
      | none => exact .inl (by simp [hg])
      | some c =>
        -- the metadata of a stored consensus state exists
        obtain ⟨ph, hph⟩ := Option.isSome_iff_exists.mp ((hb.pheight scs.latest).mpr (has_of_getCons hg))
        obtain ⟨pt, hpt⟩ := Option.isSome_iff_exists.mp ((hb.ptime scs.latest).mpr (has_of_getCons hg))
        simp only [ne_eq, Decidable.not_not, Bool.not_eq_true, Bool.not_eq_true', Bool.not_eq_false] at h2 h3 hm
        have hlt : hk cs.latest < hk scs.latest := by
          simpa [Store.latestHeight, hc, hsc] using (gte_eq_false_iff_hk _ _).mp h3
        refine .inr ⟨cs, scs, c, ph, pt, rfl, rfl, h1, h2, hlt, hm, hg, hph, hpt, ?_⟩
        by_cases hf : sj.status now = Status.frozen <;>
          simp [h1, h2, h3, hm, hg, hph, hpt, hf, recoveredStore, recoveredClient] <;> rfl

theorem recoverStore_above (sj sb : Store) (hb : MetaInv sb) (now : Int) :
    WritesAbove sj (recoverStore sj sb now).1 := by
  rcases recoverStore_cases sj sb hb now with ⟨e, _⟩ | ⟨cs, scs, c, ph, pt, hc, _, _, _, hlt, _, _, _, _, e⟩
  · exact .inl e
  · exact .inr ⟨cs, recoveredClient cs scs _, c, ph, pt, hc, hlt, by rw [e]; rfl⟩

theorem pruneAllStore_inv (s : Store) (hs : StoreInv s) (now : Int) : StoreInv (pruneAllStore s now).1 := by
  unfold pruneAllStore
  cases hc : s.client with
  | none => exact hs
  | some cs =>
    have ⟨h1, h2, h3⟩ := pruneAll_spec s hs.metaInv cs.trustingPeriod now
    have sub : ∀ h, (s.pruneAll cs.trustingPeriod now).1.has h → s.has h := fun h hh =>
      let ⟨c, hc⟩ := getCons_of_has hh
      has_of_getCons ((h3 h c).mp hc).1
    exact ⟨h1, fun cs e h hh => hs.below cs (h2 ▸ e) h (sub h hh), fun h hh => h2 ▸ hs.hasClient h (sub h hh)⟩

theorem storeInv_initClient (cs : ClientState) (c : ConsState) (now : Int) (self : Height) :
    StoreInv (initClient cs c now self) :=
  storeInv_insert Store.empty storeInv_empty _ _ _ _ _ (Nat.le_refl _) fun _ e => (nomatch e)

theorem createClient_cases (w : World) (cs : ClientState) (c : ConsState) :
    (createClient w cs c).1 = { w with nextSeq := w.nextSeq + 1 } ∨
    (cs.validate = none ∧ c.validateBasic = none ∧
      (createClient w cs c).1 = ({ w with nextSeq := w.nextSeq + 1 }).put w.nextSeq (initClient cs c w.now w.self)) := by
  unfold createClient
  cases hv : cs.validate with
  | some e => exact .inl rfl
  | none =>
    cases hb : c.validateBasic with
    | some e => exact .inl rfl
    | none => exact .inr ⟨rfl, rfl, by simp only; split <;> rfl⟩

/-- root and next-validators hash of 32 bytes in hex, and a time of at least one second, pass `ValidateBasic` -/
theorem validateBasic_hex {ts : Int} {r n : List Char} (hr : r.length = 64) (hn : n.length = 64)
    (ht : 0 < ts / 1000000000) : (⟨ts, String.ofList r, String.ofList n⟩ : ConsState).validateBasic = none := by
  have : (String.ofList r).isEmpty = false :=
    String.isEmpty_eq_false_iff.mpr fun e => by simp [String.ofList_eq_empty_iff.mp e] at hr
  simp [ConsState.validateBasic, hr, hn, this, Int.not_le.mpr ht]

theorem createClient_first {now : Int} {self : Height} {cs : ClientState} {c : ConsState}
    (hv : cs.validate = none) (hb : c.validateBasic = none) (ha : (initClient cs c now self).status now = .active) :
    (createClient ⟨[], 0, now, self⟩ cs c).1 = ⟨[(0, initClient cs c now self)], 1, now, self⟩ := by
  simp [createClient, hv, hb, ha, World.put, FMap.set, FMap.del]

theorem emptyStore_client : Store.empty.client = none := rfl

theorem client_put_cases {P : Store → Prop} (w : World) (c : Nat) (s : Store) (cid : Nat)
    (same : P (w.client cid)) (hit : c = cid → P s) : P ((w.put c s).client cid) := by
  rw [client_put]
  split
  · exact hit ‹_›
  · exact same

/-- **Every operation rewrites at most the store of the client it names** (`create`: the identifier it hands out). -/
theorem step_client_cases {P : Store → Prop} (w : World) (op : Op) (cid : Nat)
    (same : P (w.client cid))
    (create : ∀ cs c, op = .create cs c → cid = w.nextSeq → P (initClient cs c w.now w.self))
    (update : ∀ hdr v, op = .update cid hdr v → P (updateStore (w.client cid) w.now w.self hdr v).1)
    (misbehaviour : ∀ m v1 v2, op = .misbehaviour cid m v1 v2 → P (misbehaviourStore (w.client cid) w.now m v1 v2).1)
    (upgrade : ∀ u, op = .upgrade cid u → P (upgradeStore (w.client cid) w.now w.self u).1)
    (recover : ∀ b, op = .recover cid b → P (recoverStore (w.client cid) (w.client b) w.now).1)
    (pruneAll : op = .pruneAll cid → P (pruneAllStore (w.client cid) w.now).1) :
    P ((step w op).1.client cid) := by
  cases op with
  | create cs c =>
    show P ((createClient w cs c).1.client cid)
    rcases createClient_cases w cs c with e | ⟨_, _, e⟩ <;> rw [e]
    · exact same
    · exact client_put_cases _ _ _ _ same fun h => create cs c rfl h.symm
  | update c hdr v => exact client_put_cases _ _ _ _ same fun h => by subst h; exact update hdr v rfl
  | misbehaviour c m v1 v2 => exact client_put_cases _ _ _ _ same fun h => by subst h; exact misbehaviour m v1 v2 rfl
  | upgrade c u => exact client_put_cases _ _ _ _ same fun h => by subst h; exact upgrade u rfl
  | recover a b => exact client_put_cases _ _ _ _ same fun h => by subst h; exact recover b rfl
  | pruneAll c => exact client_put_cases _ _ _ _ same fun h => by subst h; exact pruneAll rfl
  | advance dt dh => exact same
  | verifyMembership c r => exact same
  | verifyNonMembership c r => exact same

theorem createClient_nextSeq (w : World) (cs : ClientState) (c : ConsState) :
    (createClient w cs c).1.nextSeq = w.nextSeq + 1 := by
  rcases createClient_cases w cs c with e | ⟨_, _, e⟩ <;> exact congrArg World.nextSeq e

theorem step_nextSeq_le (w : World) (op : Op) : w.nextSeq ≤ (step w op).1.nextSeq := by
  cases op with
  | create cs c => exact (createClient_nextSeq w cs c).symm ▸ Nat.le_succ _
  | _ => exact Nat.le_refl _

theorem step_winv (w : World) (hw : WInv w) (op : Op) : WInv (step w op).1 where
  stores cid := step_client_cases (P := StoreInv) w op cid (hw.stores cid)
    (fun cs c _ _ => storeInv_initClient cs c _ _)
    (fun _ _ _ => updateStore_inv _ (hw.stores cid) _ _ _ _)
    (fun _ _ _ _ => misbehaviourStore_fst _ _ _ _ (hw.stores cid) fun cs hc => storeInv_freeze _ cs (hw.stores cid) hc)
    (fun _ _ => (upgradeStore_above _ _ _ _).inv (hw.stores cid))
    (fun b _ => (recoverStore_above _ _ (hw.stores b).metaInv _).inv (hw.stores cid))
    (fun _ => pruneAllStore_inv _ (hw.stores cid) _)
  fresh n hn := by
    have e := hw.fresh n (Nat.le_trans (step_nextSeq_le w op) hn)
    refine step_client_cases (P := (· = Store.empty)) w op n e ?_ ?_ ?_ ?_ ?_ ?_
    · rintro cs c rfl rfl
      have : w.nextSeq + 1 ≤ w.nextSeq := createClient_nextSeq w cs c ▸ hn
      omega
    -- on the empty store every operation stops at its first check
    · intro _ _ _; rw [e]; rfl
    · exact fun m v1 v2 _ => misbehaviourStore_fst (P := (· = Store.empty)) _ m v1 v2 e fun cs hc => by rw [e] at hc; cases hc
    · intro _ _; rw [e]; rfl
    · intro b _
      rcases recoverStore_cases (w.client n) _ (hw.stores b).metaInv w.now with ⟨e', _⟩ | ⟨cs, _, _, _, _, hc, _⟩
      · exact e'.trans e
      · rw [e] at hc; cases hc
    · intro _; rw [e]; rfl

theorem run_winv : ∀ (ops : List Op) (w : World), WInv w → WInv (run w ops)
  | [], _, hw => hw
  | op :: ops, w, hw => run_winv ops _ (step_winv w hw op)

end IbcVerif.Tm
