/-
  World invariants of the ICS-20 model along lifecycle-respecting histories: every denomination in
  play (stored, or carried by a sent packet) is *good* — hop-free base, '/'-free hops with ibc-go
  formatted channel identifiers — hence path-stable; and the ghost logs are coherent.
-/
import IbcVerif.Lemmas.Ics20Lifecycle
import IbcVerif.Lemmas.DenomRl
namespace IbcVerif.Ics20
open IbcVerif IbcVerif.Xfer

/-- a denomination whose path re-parses to itself whatever hop is put in front of it -/
def GoodDenom (d : Denom) : Prop :=
  hopFreeBase d.base = true ∧ ibcSlash.isPrefixOf d.base = false ∧
  ∀ x ∈ d.trace, '/' ∉ x.port ∧ '/' ∉ x.chan ∧ isHopId x.chan = true

theorem GoodDenom.stable {d : Denom} (h : GoodDenom d) : PathStable d :=
  pathStable_of_hopFree d (fun x hx => ⟨(h.2.2 x hx).1, (h.2.2 x hx).2.1⟩) (fun x hx => (h.2.2 x hx).2.2) h.1

theorem GoodDenom.cons {d : Denom} (h : GoodDenom d) (p c : Str) (hp : '/' ∉ p) (hc : '/' ∉ c) (hid : isHopId c = true) :
    GoodDenom ⟨⟨p, c⟩ :: d.trace, d.base⟩ := by
  refine ⟨h.1, h.2.1, ?_⟩
  intro x hx
  rcases List.mem_cons.mp hx with rfl | hx
  · exact ⟨hp, hc, hid⟩
  · exact h.2.2 x hx

/-- channel / client identifiers a packet can be addressed to are '/'-free and in ibc-go's format
    (identifiers generated by ibc-go: `channel-N`, `<client-type>-N`) -/
def PeerIdsOK (cfg : Config) : Prop :=
  ∀ c id c' id', cfg.peer c id = some (c', id') → '/' ∉ id' ∧ isHopId id' = true

theorem transferPort_no_sep : '/' ∉ transferPort := by decide

theorem hopFree_of_not_mem (b : Str) (h : '/' ∉ b) : hopFreeBase b = true := by
  unfold hopFreeBase
  rw [splitOnChar_no_sep '/' b h]

theorem extract_trace_good (s : Str) :
    ∀ x ∈ (extract s).trace, '/' ∉ x.port ∧ '/' ∉ x.chan ∧ isHopId x.chan = true := by
  rw [extract_eq]
  obtain ⟨hflat, hid, -⟩ := extractGo_spec (decide ((splitOnChar '/' s).length > 2)) (splitOnChar '/' s)
  intro x hx
  have hmem : ∀ tr : List Hop, x ∈ tr → x.port ∈ flatHops tr ∧ x.chan ∈ flatHops tr := by
    intro tr h
    induction tr with
    | nil => cases h
    | cons y ys ih =>
      rcases List.mem_cons.mp h with rfl | h
      · simp [flatHops]
      · simp [flatHops, ih h]
  -- the hops are segments of the '/'-split
  have hseg : ∀ y ∈ flatHops (extractGo (decide ((splitOnChar '/' s).length > 2)) (splitOnChar '/' s)).1, '/' ∉ y :=
    fun y hy => not_mem_of_mem_split '/' s y (hflat ▸ List.mem_append_left _ hy)
  exact ⟨hseg _ (hmem _ hx).1, hseg _ (hmem _ hx).2, hid x hx⟩

structure WInv (cfg : Config) (w : World) : Prop where
  store : ∀ c, ∀ d ∈ (w.chains c).denoms, GoodDenom d
  sent : ∀ p ∈ w.sent, GoodDenom (extract p.data.denom) ∧ (extract p.data.denom).path = p.data.denom ∧
    p.srcPort = transferPort ∧ p.dstPort = transferPort ∧ cfg.peer p.srcChain p.srcChan = some (p.dstChain, p.dstChan) ∧
    validatePacketData p.data = none

theorem tokenFromCoin_good {cfg : Config} {ch : Chain} {denom : Str} {tok : Denom}
    (hstore : ∀ d ∈ ch.denoms, GoodDenom d) (hhf : hopFreeBase tok.base = true)
    (h : tokenFromCoin cfg ch denom = .ok tok) : GoodDenom tok := by
  rcases tokenFromCoin_ok h with ⟨hp, rfl⟩ | hm
  · exact ⟨hhf, hp, fun x hx => by cases hx⟩
  · exact hstore _ hm

theorem setDenom_mem {cfg : Config} {ch : Chain} {d x : Denom} (h : x ∈ (setDenom cfg ch d).denoms) :
    x = d ∨ x ∈ ch.denoms := by
  simp only [setDenom, List.mem_cons, List.mem_filter] at h
  rcases h with h | h
  · exact Or.inl h
  · exact Or.inr h.1

theorem Stepped.denoms {cfg : Config} {w w' : World} {op : Op} {r : Res} (hs : Stepped cfg w op w' r) (c : Nat) :
    (w'.chains c).denoms = (w.chains c).denoms ∨
    ∃ p, op = .recv p ∧ (w'.chains c).denoms =
      (setDenom cfg (w.chains c) ⟨⟨p.dstPort, p.dstChan⟩ :: (extract p.data.denom).trace, (extract p.data.denom).base⟩).denoms := by
  by_cases hc : c = opChain op
  case neg => rw [hs.other_chain hc]; exact Or.inl rfl
  cases hs <;> simp only [opChain] at hc <;> subst hc
  case fail => exact Or.inl rfl
  case setParams => exact Or.inl (by rw [setChain_same])
  case bankSend => exact Or.inl (by rw [setChain_same])
  all_goals simp only [World.setChain, if_true]
  case transfer ht =>
    obtain ⟨_, _, _, _, _, _, _, _, _, _, _, _, _, _, _, hst⟩ := transfer_ok ht
    rcases hst with ⟨_, hst⟩ | ⟨_, _, hst⟩ <;> exact Or.inl (sendTransfer_effect hst).1
  case sendV2 ht =>
    obtain ⟨_, _, _, _, _, _, _, _, _, _, _, _, _, hst⟩ := sendPacketV2_ok ht
    exact Or.inl (sendTransfer_effect hst).1
  case recv p _ _ hr =>
    rcases recvPacket_ok hr with ⟨_, hon⟩ | ⟨_, rfl⟩
    · obtain ⟨r, _, _, _, _, hb⟩ := onRecvPacket_effect hon
      rcases hb with ⟨_, hden, _⟩ | ⟨_, hden | hden, _⟩
      · exact Or.inl hden
      · exact Or.inl hden
      · exact Or.inr ⟨p, rfl, hden⟩
    · exact Or.inl rfl
  case ack hak =>
    rcases ackPacket_ok hak with ⟨_, rfl⟩ | ⟨_, href⟩
    · exact Or.inl rfl
    · exact Or.inl (refund_effect href).choose_spec.2.1
  case timeout hto => exact Or.inl (refund_effect (timeoutPacket_ok hto)).choose_spec.2.1

theorem winv_step {cfg : Config} (hpeer : PeerIdsOK cfg) {w : World} (hw : WInv cfg w) (op : Op)
    (hg : Guard w op) : WInv cfg (step cfg w op).1 := by
  have hs := stepped cfg w op
  generalize (step cfg w op).1 = w', (step cfg w op).2 = r at hs ⊢
  refine ⟨fun c d hd => ?_, ?_⟩
  · rcases hs.denoms c with e | ⟨p, rfl, e⟩
    · exact hw.store c d (e ▸ hd)
    · rcases setDenom_mem (e ▸ hd) with rfl | hd
      · -- the voucher of a packet that was sent: its denomination is good, and so is the hop put in front
        obtain ⟨hgood, _, _, hdp, hpr, _⟩ := hw.sent p hg.1
        obtain ⟨h1, h2⟩ := hpeer _ _ _ _ hpr
        exact hgood.cons _ _ (by rw [hdp]; exact transferPort_no_sep) h1 h2
      · exact hw.store c d hd
  cases hs with
  | @transfer c _ _ m _ _ ch' p _ ht =>
    obtain ⟨s, n, tok, _, _, htok, hhf, hval, hdata, hc, hsp, hsc, hdp, hpeer', _, _⟩ := transfer_ok ht
    have hgood : GoodDenom tok := tokenFromCoin_good (hw.store c) hhf htok
    refine List.forall_mem_cons.mpr ⟨?_, hw.sent⟩
    rw [hdata]
    simp only
    rw [hgood.stable]
    exact ⟨hgood, rfl, hsp, hdp, by rw [hc, hsc]; exact hpeer', hval⟩
  | @sendV2 c _ _ data _ _ ch' p ht =>
    obtain ⟨s, _, _, hv, hdata, hc, hsp, hsc, hdp, hpeer', _, _, hslash, _⟩ := sendPacketV2_ok ht
    have hvalid : (extract data.denom).validate = none := (validatePacketData_none.mp hv).2.2.2
    have hm : '/' ∉ (extract data.denom).base := fun h => by rw [← List.contains_iff_mem, hslash] at h; cases h
    have hnoibc : ibcSlash.isPrefixOf (extract data.denom).base = false := Bool.eq_false_iff.mpr fun hpre => by
      obtain ⟨t, ht⟩ := List.isPrefixOf_iff_prefix.mp hpre
      exact hm (by rw [← ht]; simp [ibcSlash])
    have hgood : GoodDenom (extract data.denom) := ⟨hopFree_of_not_mem _ hm, hnoibc, extract_trace_good data.denom⟩
    refine List.forall_mem_cons.mpr ⟨?_, hw.sent⟩
    rw [hdata]
    refine ⟨hgood, ?_, hsp, hdp, by rw [hc, hsc]; exact hpeer', hv⟩
    exact extract_path_of_base_ne_nil _ fun e => by simp [Denom.validate, e, goBlank] at hvalid
  | _ => exact hw.sent

/-- every stored denomination re-parses to itself, along every lifecycle-respecting history -/
theorem storeStable_run {cfg : Config} (hpeer : PeerIdsOK cfg) (ops : List Op) (w : World) (hw : WInv cfg w)
    (hl : LifecycleOK cfg w ops) (c : Nat) : ∀ d ∈ ((run cfg w ops).chains c).denoms, PathStable d :=
  fun d hd => ((run_invariant (Q := fun _ => True) (fun _ op hw hg _ => winv_step hpeer hw op hg) ops w hw hl
    fun _ _ => trivial).store c d hd).stable

/-- no two entries of a chain's denomination store share a key (the hash of the entry's path) -/
def DenomsKeyed (cfg : Config) (w : World) : Prop :=
  ∀ c, ((w.chains c).denoms.map fun d => cfg.hashHex d.path).Nodup

theorem setDenom_keyed {cfg : Config} {ch : Chain} (d : Denom)
    (h : (ch.denoms.map fun x => cfg.hashHex x.path).Nodup) :
    ((setDenom cfg ch d).denoms.map fun x => cfg.hashHex x.path).Nodup := by
  simp only [setDenom, List.map_cons, List.nodup_cons]
  constructor
  · intro hm
    rw [List.mem_map] at hm
    obtain ⟨x, hx, he⟩ := hm
    rw [List.mem_filter] at hx
    simp [he] at hx
  · exact List.Nodup.sublist (List.Sublist.map _ List.filter_sublist) h

theorem denomsKeyed_step (cfg : Config) (w : World) (op : Op) (h : DenomsKeyed cfg w) :
    DenomsKeyed cfg (step cfg w op).1 := by
  intro c
  rcases (stepped cfg w op).denoms c with e | ⟨_, _, e⟩
  · rw [e]; exact h c
  · rw [e]; exact setDenom_keyed _ (h c)

theorem denomsKeyed_run (cfg : Config) : ∀ (ops : List Op) (w : World), DenomsKeyed cfg w → DenomsKeyed cfg (run cfg w ops) := by
  intro ops
  induction ops with
  | nil => intro w h; exact h
  | cons op ops ih => intro w h; exact ih _ (denomsKeyed_step cfg w op h)

theorem getDenom_of_mem {cfg : Config} {ch : Chain} (h : (ch.denoms.map fun x => cfg.hashHex x.path).Nodup)
    (d : Denom) (hd : d ∈ ch.denoms) : getDenom cfg ch (cfg.hashHex d.path) = some d := by
  unfold getDenom
  generalize ch.denoms = l at h hd
  induction l with
  | nil => cases hd
  | cons x xs ih =>
    simp only [List.map_cons, List.nodup_cons] at h
    rcases List.mem_cons.mp hd with rfl | hd'
    · simp [List.find?]
    · have hb : (cfg.hashHex x.path == cfg.hashHex d.path) = false :=
        beq_false_of_ne fun e => h.1 (e ▸ List.mem_map.mpr ⟨d, hd', rfl⟩)
      rw [List.find?_cons, hb]
      exact ih h.2 hd'

end IbcVerif.Ics20
