/-
  The vocabulary of C36 (`remaining`, `spentOn`, `CoinsWF`, `GrantWF`, `BoundedOn`) and the lemmas about
  the transfer-authorization model (`Model/Authz.lean`) it rests on, up to what an accepted request did
  to the grant (`accept_accepted`) and the accounting of one request (`accept_step`).
-/
import IbcVerif.Model.Authz
namespace IbcVerif.Authz

/-- contribution of one allocation to the remaining limit of (port, channel, denom) -/
def contrib (p c d : String) (a : Allocation) : Nat :=
  if a.chan = c ∧ a.port = p then amountOf a.limit d else 0

/-- total remaining limit of a grant for (port, channel, denom) -/
def remaining (g : List Allocation) (p c d : String) : Nat := (g.map (contrib p c d)).sum

/-- what a list of accepted requests moved on (port, channel, denom) -/
def spentOn (acc : List Msg) (p c d : String) : Nat :=
  (acc.map (fun m => if m.port = p ∧ m.chan = c ∧ m.denom = d then m.amount else 0)).sum

/-- denominations of a spend limit are distinct (sdk.Coins are strictly sorted) -/
def CoinsWF (l : Coins) : Prop := (l.map (·.1)).Nodup

def GrantWF (g : List Allocation) : Prop := ∀ a ∈ g, CoinsWF a.limit

theorem amountOf_of_not_mem (l : Coins) (x : String) (h : x ∉ l.map (·.1)) : amountOf l x = 0 := by
  induction l with
  | nil => rfl
  | cons e rest ih =>
    obtain ⟨d, n⟩ := e
    simp only [List.map_cons, List.mem_cons, not_or] at h
    rw [amountOf, if_neg (fun e => h.1 e.symm)]
    exact ih h.2

theorem amountOf_setAmount (l : Coins) (hl : CoinsWF l) (x y : String) (n : Nat) :
    amountOf (setAmount l x n) y = if y = x then n else amountOf l y := by
  induction l with
  | nil =>
    rw [setAmount]
    split
    · subst n; simp [amountOf]
    · simp [amountOf, eq_comm]
  | cons e rest ih =>
    obtain ⟨d, m⟩ := e
    have hnd : d ∉ rest.map (·.1) ∧ CoinsWF rest := List.nodup_cons.mp hl
    rw [setAmount]
    by_cases hdx : d = x
    · subst hdx
      rw [if_pos rfl]
      by_cases hy : y = d
      · subst hy
        split
        · subst n; simp [amountOf_of_not_mem rest y hnd.1]
        · simp [amountOf]
      · split <;> simp [amountOf, Ne.symm hy]
    · rw [if_neg hdx, amountOf, ih hnd.2]
      by_cases hdy : d = y
      · subst hdy; simp [amountOf, hdx]
      · simp [amountOf, hdy]

theorem setAmount_keys_sublist (l : Coins) (x : String) (n : Nat) (hx : x ∈ l.map (·.1)) :
    ((setAmount l x n).map (·.1)).Sublist (l.map (·.1)) := by
  induction l with
  | nil => simp at hx
  | cons e rest ih =>
    obtain ⟨d, m⟩ := e
    rw [setAmount]
    by_cases hdx : d = x
    · rw [if_pos hdx]
      split
      · exact List.sublist_cons_self _ _
      · exact List.Sublist.refl _
    · rw [if_neg hdx]
      exact List.Sublist.cons_cons _ (ih ((List.mem_cons.mp hx).resolve_left (Ne.symm hdx)))

theorem remaining_erase (p c d : String) : ∀ (g : List Allocation) (i : Nat) (a : Allocation), g[i]? = some a →
    remaining (g.eraseIdx i) p c d + contrib p c d a = remaining g p c d
  | [], i, a, h => by simp at h
  | x :: xs, 0, a, h => by
      simp only [List.getElem?_cons_zero, Option.some.injEq] at h
      subst h
      simp only [remaining, List.eraseIdx_cons_zero, List.map_cons, List.sum_cons]
      omega
  | x :: xs, i + 1, a, h => by
      simp only [List.getElem?_cons_succ] at h
      have := remaining_erase p c d xs i a h
      simp only [remaining, List.eraseIdx_cons_succ, List.map_cons, List.sum_cons] at this ⊢
      omega

/-- replacing an allocation is erasing it from the old grant and from the new one -/
theorem remaining_set (p c d : String) (g : List Allocation) (i : Nat) (a a' : Allocation) (h : g[i]? = some a) :
    remaining (g.set i a') p c d + contrib p c d a = remaining g p c d + contrib p c d a' := by
  have h1 := remaining_erase p c d (g.set i a') i a'
    (List.getElem?_set_self (List.getElem?_eq_some_iff.mp h).1)
  have h2 := remaining_erase p c d g i a h
  rw [List.eraseIdx_set_eq] at h1
  omega

theorem findIdx_spec (m : Msg) : ∀ (g : List Allocation) (i : Nat), findIdx m g = some i →
    ∃ a, g[i]? = some a ∧ a.chan = m.chan ∧ a.port = m.port
  | [], i, h => by simp [findIdx] at h
  | x :: xs, i, h => by
      rw [findIdx] at h
      split at h
      · rename_i hm
        cases h
        exact ⟨x, rfl, hm⟩
      · obtain ⟨j, hj, rfl⟩ := Option.map_eq_some_iff.mp h
        exact findIdx_spec m xs j hj

def BoundedOn (g : List Allocation) (p c d : String) : Prop :=
  ∀ a ∈ g, a.chan = c ∧ a.port = p → amountOf a.limit d < unbounded

theorem safeSub_spec (l left : Coins) (hl : CoinsWF l) (x : String) (n : Nat) (h : safeSub l x n = some left) :
    CoinsWF left ∧ ∀ y, amountOf l y = amountOf left y + (if y = x then n else 0) := by
  unfold safeSub at h
  split at h
  · rename_i hn; cases h; subst hn; exact ⟨hl, fun y => by split <;> rfl⟩
  · split at h
    · cases h
    · rename_i hn hlt
      cases h
      have hmem : x ∈ l.map (·.1) := Classical.byContradiction fun hnm => by
        have := amountOf_of_not_mem l x hnm
        omega
      refine ⟨hl.sublist (setAmount_keys_sublist l x _ hmem), fun y => ?_⟩
      rw [amountOf_setAmount l hl]
      split
      · subst y; omega
      · rfl

theorem mem_of_getElem? {α : Type} {l : List α} {i : Nat} {a : α} (h : l[i]? = some a) : a ∈ l :=
  List.mem_of_getElem? h

/-- `Accept` says yes only through the allocation `findIdx` returns, after the receiver and memo
    checks; an unbounded limit leaves the grant as it is, a bounded one is reduced by `SafeSub` and the
    allocation dropped when nothing is left. -/
theorem accept_accepted (norm : String → String) (g : List Allocation) (m : Msg)
    (h : (accept norm g m).accepted = true) :
    ∃ (i : Nat) (a : Allocation), g[i]? = some a ∧ a.chan = m.chan ∧ a.port = m.port ∧
      allowedAddress m.receiver a.allowList = true ∧ memoOk norm m.memo a.allowedMemos = true ∧
      ((amountOf a.limit m.denom = unbounded ∧ nextGrant g (accept norm g m) = g) ∨
       (amountOf a.limit m.denom ≠ unbounded ∧ ∃ left, safeSub a.limit m.denom m.amount = some left ∧
          nextGrant g (accept norm g m) =
            if left.isEmpty = true then g.eraseIdx i else g.set i { a with limit := left })) := by
  cases hfi : findIdx m g with
  | none => simp [accept, hfi, Resp.accepted] at h
  | some i =>
    obtain ⟨a, hga, hac, hap⟩ := findIdx_spec m g i hfi
    refine ⟨i, a, hga, hac, hap, ?_⟩
    simp only [accept, hfi, hga] at h ⊢
    have h1 : allowedAddress m.receiver a.allowList = true := by
      cases h1 : allowedAddress m.receiver a.allowList with
      | false => simp [h1, Resp.accepted] at h
      | true => rfl
    have h2 : memoOk norm m.memo a.allowedMemos = true := by
      cases h2 : memoOk norm m.memo a.allowedMemos with
      | false => simp [h1, h2, Resp.accepted] at h
      | true => rfl
    refine ⟨h1, h2, ?_⟩
    simp only [h1, h2, Bool.not_true, Bool.false_eq_true, if_false] at h ⊢
    by_cases hbd : amountOf a.limit m.denom = unbounded
    · have hne : a.limit ≠ [] := fun e => by simp [e, amountOf, unbounded] at hbd
      have hg : g ≠ [] := fun e => by simp [e] at hga
      simp [hbd, hne, hg, nextGrant]
    · simp only [ne_eq, hbd, not_false_eq_true, if_true, decide_true, Bool.not_true, Bool.false_eq_true, if_false] at h ⊢
      cases hss : safeSub a.limit m.denom m.amount with
      | none => simp [hss, Resp.accepted] at h
      | some left =>
        refine Or.inr ⟨trivial, left, rfl, ?_⟩
        simp only []
        generalize (if left.isEmpty = true then g.eraseIdx i else g.set i { a with limit := left }) = newg
        cases newg <;> rfl

theorem nextGrant_refused (g : List Allocation) (r : Resp) (h : r.accepted = false) : nextGrant g r = g := by
  cases r with
  | acceptDelete | acceptKeep | acceptUpdated _ => cases h
  | _ => rfl

/-- one request: well-formedness and boundedness are preserved and the remaining limit of every
    bounded (port, channel, denom) decreases by exactly the accepted amount -/
theorem accept_step (norm : String → String) (g : List Allocation) (m : Msg) (p c d : String)
    (hwf : GrantWF g) (hb : BoundedOn g p c d) :
    GrantWF (nextGrant g (accept norm g m)) ∧ BoundedOn (nextGrant g (accept norm g m)) p c d ∧
      remaining (nextGrant g (accept norm g m)) p c d +
        (if (accept norm g m).accepted = true ∧ m.port = p ∧ m.chan = c ∧ m.denom = d then m.amount else 0)
        = remaining g p c d := by
  cases hacc : (accept norm g m).accepted with
  | false =>
    rw [nextGrant_refused g _ hacc, if_neg (by simp)]
    exact ⟨hwf, hb, rfl⟩
  | true =>
    obtain ⟨i, a, hga, hac, hap, -, -, ⟨hbd, hng⟩ | ⟨-, left, hss, hng⟩⟩ := accept_accepted norm g m hacc
    · -- an unbounded limit is not on a bounded (port, channel, denom)
      rw [hng, if_neg]
      · exact ⟨hwf, hb, rfl⟩
      · rintro ⟨-, rfl, rfl, rfl⟩
        exact Nat.lt_irrefl _ (hbd ▸ hb a (List.mem_of_getElem? hga) ⟨hac, hap⟩)
    · have hamem : a ∈ g := List.mem_of_getElem? hga
      obtain ⟨hlwf, hamt⟩ := safeSub_spec a.limit left (hwf a hamem) m.denom m.amount hss
      have hc : contrib p c d a = contrib p c d { a with limit := left } +
          (if m.port = p ∧ m.chan = c ∧ m.denom = d then m.amount else 0) := by
        simp only [contrib, hac, hap, hamt d]
        by_cases hk : m.chan = c ∧ m.port = p
        · by_cases hd : d = m.denom
          · simp [hk, hd]
          · simp [hk, hd, Ne.symm hd]
        · rw [if_neg hk, if_neg hk, if_neg (fun h => hk ⟨h.2.1, h.1⟩)]
      simp only [hng, true_and]
      have hmem : ∀ b ∈ (if left.isEmpty = true then g.eraseIdx i else g.set i { a with limit := left }),
          b ∈ g ∨ b = { a with limit := left } := by
        intro b hbm
        split at hbm
        · exact Or.inl (List.mem_of_mem_eraseIdx hbm)
        · exact List.mem_or_eq_of_mem_set hbm
      refine ⟨fun b hbm => ?_, fun b hbm hk => ?_, ?_⟩
      · rcases hmem b hbm with h | rfl
        · exact hwf b h
        · exact hlwf
      · rcases hmem b hbm with h | rfl
        · exact hb b h hk
        · have h1 := hb a hamem hk
          have h2 := hamt d
          show amountOf left d < unbounded
          omega
      · split
        · rename_i hemp
          have hl0 : left = [] := by simpa using hemp
          have h0 : contrib p c d { a with limit := left } = 0 := by simp [contrib, hl0, amountOf]
          have e := remaining_erase p c d g i a hga
          omega
        · have e := remaining_set p c d g i a { a with limit := left } hga
          omega

end IbcVerif.Authz
