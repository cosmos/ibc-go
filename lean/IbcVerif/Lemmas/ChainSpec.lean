/-
  Characterisations of the keeper-level functions of the chain model: what a successful call did.
  (Failure never changes state: the functions return `Except`, the msg handlers drop the child.)
-/
import IbcVerif.Model.Chain
import IbcVerif.Lemmas.ChainMap
import IbcVerif.Lemmas.Except
namespace IbcVerif.Chain
open FMap

/-- split a hypothesis `handler … = .ok s'` along all branches of the handler, discarding the
    branches that return an error -/
macro "esplit " h:ident : tactic =>
  `(tactic| repeat' (split at $h:ident <;> try (first | (cases $h:ident; done) | contradiction)))

theorem except_ok_error {ε α : Type} {x : Except ε α} {a : α} {e : ε} (h1 : x = .ok a) (h2 : x = .error e) : False := by
  rw [h1] at h2; cases h2

variable {s s' : ChainState} {env : Env}

/-- `SendPacket` succeeded: every guard it passed, and the state it wrote -/
theorem sendPacketV1_ok {port chan : Id} {thRev thH tt seq : Nat} {data : Hex}
    (h : sendPacketV1 s env port chan thRev thH tt data = .ok (s', seq)) :
    ∃ ch, s.chan.get (port, chan) = some ch ∧ ch.state = .opened ∧ s.nextSend.get chan = some seq ∧
      s' = { s with nextSend := s.nextSend.set chan (seq + 1),
                    commitV1 := s.commitV1.set (port, chan, seq) ⟨tt, thRev, thH, data⟩ } ∧
      ∃ conn lts, getConn s ch = .ok conn ∧ clientStatus s env conn.2.client = .active ∧
      (clientLatestHeight s env conn.2.client).isZero = false ∧
      clientTimestampAt s env conn.2.client = .ok lts ∧
      (Timeout.elapsed ⟨⟨UInt64.ofNat thRev, UInt64.ofNat thH⟩, UInt64.ofNat tt⟩
        (clientLatestHeight s env conn.2.client) (UInt64.ofNat lts)) = false ∧
      ¬ (thRev = 0 ∧ thH = 0 ∧ tt = 0) ∧ data ≠ "" := by
  revert h
  unfold sendPacketV1
  simp only
  split
  · nofun
  rename_i ch hch
  refine ok_ite fun h1 => ?_
  split
  · nofun
  rename_i hseq
  refine ok_ite fun _ => ok_ite fun h2 => ok_ite fun h3 => ?_
  split
  · nofun
  rename_i hop conn hg
  refine ok_ite fun h4 => ok_ite fun h5 => ?_
  split
  · nofun
  rename_i lts hts
  refine ok_ite fun h6 h => ?_
  cases h
  exact ⟨ch, hch, Decidable.not_not.mp h1, hseq, rfl, (hop, conn), lts, hg, Decidable.not_not.mp h4, by simpa using h5, hts,
    by simpa using h6, h2, h3⟩

theorem applyReplayProtection_ok {p : PacketV1} {ch : Channel}
    (h : applyReplayProtection s p ch = .ok s') :
    (ch.ordering = .unordered ∧ s.receiptV1.get (p.dp, p.dc, p.seq) = none ∧
      s' = { s with receiptV1 := s.receiptV1.set (p.dp, p.dc, p.seq) () }) ∨
    (ch.ordering = .ordered ∧ s.nextRecv.get (p.dp, p.dc) = some p.seq ∧
      s' = { s with nextRecv := s.nextRecv.set (p.dp, p.dc) (p.seq + 1) }) := by
  revert h
  unfold applyReplayProtection
  refine ok_ite fun _ => ?_
  split
  · rename_i ho
    refine ok_ite fun hr h => ?_
    cases h
    exact .inl ⟨ho, (has_false_iff _ _).mp (Bool.eq_false_iff.mpr hr), rfl⟩
  · rename_i ho
    split
    · nofun
    rename_i nsr hn
    refine ok_ite fun _ => ok_ite fun hq h => ?_
    cases h
    obtain rfl := Decidable.not_not.mp hq
    exact .inr ⟨ho, hn, rfl⟩
  · nofun

theorem recvPacketV1_ok {p : PacketV1}
    (h : recvPacketV1 s env p = .ok s') :
    ∃ ch, s.chan.get (p.dp, p.dc) = some ch ∧ ch.state = .opened ∧ applyReplayProtection s p ch = .ok s' := by
  revert h
  unfold recvPacketV1
  split
  · nofun
  rename_i ch hch
  refine ok_ite fun hst => ok_ite fun _ => ok_ite fun _ => ?_
  split
  · nofun
  refine ok_ite fun _ => ok_ite fun _ => ?_
  split
  · nofun
  · exact fun h => ⟨ch, hch, Decidable.not_not.mp hst, h⟩

theorem writeAckV1_ok {p : PacketV1} {a : Option Hex}
    (h : writeAckV1 s p a = .ok s') :
    ∃ bz ch, a = some bz ∧ bz ≠ "" ∧ s.chan.get (p.dp, p.dc) = some ch ∧ ch.state = .opened ∧
      s.ackV1.get (p.dp, p.dc, p.seq) = none ∧
      s' = { s with ackV1 := s.ackV1.set (p.dp, p.dc, p.seq) bz } := by
  revert h
  unfold writeAckV1
  split
  · nofun
  rename_i ch hch
  refine ok_ite fun hst => ok_ite fun _ => ok_ite fun hhas => ?_
  split
  · nofun
  rename_i bz
  refine ok_ite fun hbz h => ?_
  cases h
  exact ⟨bz, ch, rfl, hbz, hch, Decidable.not_not.mp hst, (has_false_iff _ _).mp (Bool.eq_false_iff.mpr hhas), rfl⟩

theorem recvPacketV1_frame {s s1 : ChainState} {p : PacketV1}
    (h1 : recvPacketV1 s env p = .ok s1) : s1.chan = s.chan ∧ s1.conn = s.conn ∧ s1.log = s.log ∧ s1.app = s.app := by
  obtain ⟨ch, _, _, h2⟩ := recvPacketV1_ok h1
  rcases applyReplayProtection_ok h2 with ⟨_, _, rfl⟩ | ⟨_, _, rfl⟩ <;> exact ⟨rfl, rfl, rfl, rfl⟩

theorem writeAckV1_twice {c c' c'' : ChainState} {p : PacketV1} {a b : Option Hex}
    (h2 : writeAckV1 c' p b = .ok c'') (h1 : writeAckV1 c p a = .ok c') : False := by
  obtain ⟨_, _, _, _, _, _, _, rfl⟩ := writeAckV1_ok h1
  obtain ⟨_, _, _, _, _, _, hnone, _⟩ := writeAckV1_ok h2
  exact get_set_self_ne_none hnone

theorem acknowledgePacketV1_ok {p : PacketV1}
    (h : acknowledgePacketV1 s env p = .ok s') :
    ∃ ch, s.chan.get (p.sp, p.sc) = some ch ∧ ch.state = .opened ∧ s.commitV1.get (p.sp, p.sc, p.seq) = some p.commit ∧
      ((ch.ordering = .ordered ∧ s.nextAck.get (p.sp, p.sc) = some p.seq ∧
          s' = { s with nextAck := s.nextAck.set (p.sp, p.sc) (p.seq + 1),
                        commitV1 := s.commitV1.del (p.sp, p.sc, p.seq) }) ∨
       (ch.ordering ≠ .ordered ∧ s' = { s with commitV1 := s.commitV1.del (p.sp, p.sc, p.seq) })) := by
  revert h
  unfold acknowledgePacketV1
  split
  · nofun
  rename_i ch hch
  refine ok_ite fun hst => ok_ite fun _ => ok_ite fun _ => ?_
  split
  · nofun
  refine ok_ite fun _ => ?_
  split
  · nofun
  rename_i c hc
  refine ok_ite fun hcc => ?_
  obtain rfl := Decidable.not_not.mp hcc
  split
  · nofun
  split
  · rename_i ho
    split
    · nofun
    rename_i nsa hn
    refine ok_ite fun hq h => ?_
    cases h
    obtain rfl := Decidable.not_not.mp hq
    exact ⟨ch, hch, Decidable.not_not.mp hst, hc, .inl ⟨ho, hn, rfl⟩⟩
  · rename_i ho
    intro h
    cases h
    exact ⟨ch, hch, Decidable.not_not.mp hst, hc, .inr ⟨ho, rfl⟩⟩

theorem timeoutExecuted_eq (s : ChainState) (ch : Channel) (p : PacketV1) :
    timeoutExecuted s ch p =
      if ch.ordering = .ordered then
        { s with commitV1 := s.commitV1.del (p.sp, p.sc, p.seq),
                 chan := s.chan.set (p.sp, p.sc) { ch with state := .closed } }
      else { s with commitV1 := s.commitV1.del (p.sp, p.sc, p.seq) } := by
  unfold timeoutExecuted; split <;> rfl

theorem timeoutExecuted_closes (s : ChainState) (ch : Channel) (p : PacketV1) (ho : ch.ordering = .ordered) :
    ∃ ch', (timeoutExecuted s ch p).chan.get (p.sp, p.sc) = some ch' ∧ ch'.state = .closed := by
  rw [timeoutExecuted_eq, if_pos ho]
  exact ⟨{ ch with state := .closed }, by simp, rfl⟩

theorem timeoutPacketV1_ok {p : PacketV1} {nsr phRev phH : Nat}
    (h : timeoutPacketV1 s env p nsr phRev phH = .ok s') :
    ∃ ch, s.chan.get (p.sp, p.sc) = some ch ∧ s.commitV1.get (p.sp, p.sc, p.seq) = some p.commit ∧
      s' = timeoutExecuted s ch p := by
  revert h
  unfold timeoutPacketV1
  split
  · nofun
  rename_i ch hch
  refine ok_ite fun _ => ok_ite fun _ => ?_
  split
  · nofun
  split
  · nofun
  refine ok_ite fun _ => ?_
  split
  · nofun
  rename_i c hc
  refine ok_ite fun hcc => ?_
  obtain rfl := Decidable.not_not.mp hcc
  split
  · refine ok_ite fun _ => ?_
    split
    · nofun
    · exact fun h => ⟨ch, hch, hc, by cases h; rfl⟩
  · split
    · nofun
    · exact fun h => ⟨ch, hch, hc, by cases h; rfl⟩
  · nofun

theorem timeoutOnCloseV1_ok {p : PacketV1} {nsr : Nat}
    (h : timeoutOnCloseV1 s env p nsr = .ok s') :
    ∃ ch, s.chan.get (p.sp, p.sc) = some ch ∧ s.commitV1.get (p.sp, p.sc, p.seq) = some p.commit ∧
      s' = timeoutExecuted s ch p := by
  revert h
  unfold timeoutOnCloseV1
  split
  · nofun
  rename_i ch hch
  refine ok_ite fun _ => ok_ite fun _ => ?_
  split
  · nofun
  split
  · nofun
  rename_i c hc
  refine ok_ite fun hcc => ?_
  obtain rfl := Decidable.not_not.mp hcc
  split
  · nofun
  split
  · refine ok_ite fun _ => ?_
    split
    · nofun
    · exact fun h => ⟨ch, hch, hc, by cases h; rfl⟩
  · split
    · nofun
    · exact fun h => ⟨ch, hch, hc, by cases h; rfl⟩
  · nofun

theorem registerAlias_ok {chanId : Id} {ch : Channel} (h : registerAlias s chanId ch = .ok s') :
    ∃ C A, s' = { s with cpV2 := C, alias := A } ∧ (C = s.cpV2 ∨ ∃ v, C = s.cpV2.set chanId v) := by
  unfold registerAlias at h
  esplit h
  · simp only [Except.ok.injEq] at h
    exact ⟨_, _, h.symm, .inr ⟨_, rfl⟩⟩
  · simp only [Except.ok.injEq] at h
    exact ⟨_, _, h.symm, .inl rfl⟩

theorem addConnectionToClient_ok {client connId : Id}
    (h : addConnectionToClient s client connId = .ok s') : ∃ X, s' = { s with clientConns := X } := by
  unfold addConnectionToClient at h
  esplit h
  simp only [Except.ok.injEq] at h
  exact ⟨_, h.symm⟩

theorem bind_ok_iff {α β : Type} (x : Except String α) (f : α → Except String β) (b : β) :
    x.bind f = .ok b ↔ ∃ a, x = .ok a ∧ f a = .ok b := by
  cases x <;> simp [Except.bind]

theorem optGet_ok_iff {α : Type} (o : Option α) (e : String) (a : α) : optGet o e = .ok a ↔ o = some a := by
  cases o <;> simp [optGet]

theorem sendChecksV2_ok {src : Id} {tt seq : Nat} {payloads : List Payload} {cpId : Id}
    (h : sendChecksV2 s env src tt payloads = .ok (cpId, seq)) :
    ∃ pfx, s.cpV2.get src = some (cpId, pfx) ∧ v2TimeoutWindow env tt = .ok () ∧ s.nextSend.get src = some seq ∧
      sendV2ClientGuards s env src tt = .ok () := by
  unfold sendChecksV2 at h
  simp only [bind_ok_iff, optGet_ok_iff, Except.ok.injEq, Prod.mk.injEq] at h
  obtain ⟨cp, hcp, _, hw, _, hn, _, _, _, hg, rfl, rfl⟩ := h
  exact ⟨cp.2, hcp, hw, hn, hg⟩

theorem sendPacketV2_ok {src : Id} {tt seq : Nat} {payloads : List Payload}
    (h : sendPacketV2 s env src tt payloads = .ok (s', seq)) :
    ∃ cpId pfx, s.cpV2.get src = some (cpId, pfx) ∧ s.nextSend.get src = some seq ∧
      s' = commitSendV2 s src seq ⟨cpId, tt, payloads⟩ := by
  unfold sendPacketV2 at h
  split at h
  · cases h
  · rename_i cpId n hc
    cases h
    obtain ⟨pfx, hp, _, hn, _⟩ := sendChecksV2_ok hc
    exact ⟨cpId, pfx, hp, hn, rfl⟩

theorem recvPacketV2_ok {p : PacketV2}
    (h : recvPacketV2 s env p = .ok s') :
    s.receiptV2.get (p.dst, p.seq) = none ∧ s' = { s with receiptV2 := s.receiptV2.set (p.dst, p.seq) () } := by
  revert h
  unfold recvPacketV2
  split
  · nofun
  refine ok_ite fun _ => ok_ite fun _ => ok_ite fun hr => ?_
  split
  · nofun
  intro h
  cases h
  exact ⟨(has_false_iff _ _).mp (Bool.eq_false_iff.mpr hr), rfl⟩

theorem writeAckV2_ok {p : PacketV2} {acks : List Hex}
    (h : writeAckV2 s p acks = .ok s') :
    ackValidV2 acks = true ∧ (ackSuccessV2 acks = true → acks.length = p.payloads.length) ∧
      s.ackV2.get (p.dst, p.seq) = none ∧ s.receiptV2.get (p.dst, p.seq) ≠ none ∧
      s' = { s with ackV2 := s.ackV2.set (p.dst, p.seq) acks } := by
  revert h
  unfold writeAckV2
  refine ok_ite fun hv => ok_ite fun hl => ?_
  split
  · nofun
  refine ok_ite fun _ => ok_ite fun ha => ok_ite fun hr h => ?_
  cases h
  refine ⟨by simpa using hv, fun hs => ?_, (has_false_iff _ _).mp (Bool.eq_false_iff.mpr ha),
    (has_iff _ _).mp (by simpa using hr), rfl⟩
  simpa [hs] using hl

theorem asyncWriteAckV2_ok {dst : Id} {seq : Nat} {acks : List Hex}
    (h : asyncWriteAckV2 s dst seq acks = .ok s') :
    ∃ p s1, s.asyncV2.get (dst, seq) = some p ∧ writeAckV2 s p acks = .ok s1 ∧
      s' = { s1 with asyncV2 := s1.asyncV2.del (dst, seq) } := by
  revert h
  unfold asyncWriteAckV2
  split
  · nofun
  rename_i p hp
  split
  · nofun
  rename_i s1 hw
  intro h
  cases h
  exact ⟨p, s1, hp, hw, rfl⟩

theorem acknowledgePacketV2_ok {p : PacketV2}
    (h : acknowledgePacketV2 s env p = .ok s') :
    s.cpV2.get p.src ≠ none ∧ s.commitV2.get (p.src, p.seq) = some p.commit ∧
      s' = { s with commitV2 := s.commitV2.del (p.src, p.seq) } := by
  revert h
  unfold acknowledgePacketV2
  split
  · nofun
  rename_i hcp
  refine ok_ite fun _ => ?_
  split
  · nofun
  rename_i c hc
  refine ok_ite fun hcc => ?_
  obtain rfl := Decidable.not_not.mp hcc
  split
  · nofun
  intro h
  cases h
  exact ⟨(fun h => nomatch hcp.symm.trans h), hc, rfl⟩

theorem timeoutPacketV2_ok {p : PacketV2}
    (h : timeoutPacketV2 s env p = .ok s') :
    s.cpV2.get p.src ≠ none ∧ s.commitV2.get (p.src, p.seq) = some p.commit ∧
      s' = { s with commitV2 := s.commitV2.del (p.src, p.seq) } := by
  revert h
  unfold timeoutPacketV2
  simp only
  split
  · nofun
  rename_i hcp
  refine ok_ite fun _ => ?_
  split
  · nofun
  refine ok_ite fun _ => ?_
  split
  · nofun
  rename_i c hc
  refine ok_ite fun hcc => ?_
  obtain rfl := Decidable.not_not.mp hcc
  split
  · nofun
  intro h
  cases h
  exact ⟨(fun h => nomatch hcp.symm.trans h), hc, rfl⟩

theorem verify_ok_iff (s : ChainState) (env : Env) (cid : Id) (v : Bool) :
    verify s env cid v = .ok () ↔ route s cid = .ok () ∧ env.lc.statusOf cid = .active ∧ v = true := by
  unfold verify
  cases hr : route s cid with
  | error e => simp
  | ok u =>
    by_cases hs : env.lc.statusOf cid = .active <;> cases v <;> simp [hs]

theorem verify_ok_v {s : ChainState} {env : Env} {cid : Id} {v : Bool} {u : Unit}
    (h : verify s env cid v = .ok u) : v = true := ((verify_ok_iff s env cid v).mp h).2.2

theorem connSupportsOrder_ok {conn : ConnEnd} {o : Order} {u : Unit} (h : connSupportsOrder conn o = .ok u) :
    ∃ v, conn.versions = [v] ∧ v.features.contains o.str = true := by
  unfold connSupportsOrder at h
  split at h
  · split at h
    · exact ⟨_, ‹_›, ‹_›⟩
    · cases h
  · cases h

theorem route_ok_allowed {s : ChainState} {cid : Id} {u : Unit} (h : route s cid = .ok u) :
    ∃ t n, parseClientId cid = .ok (t, n) ∧ isAllowedClient s.allowedClients t = true ∧
      registeredClientTypes.contains t = true := by
  revert h
  unfold route
  split
  · nofun
  · exact ok_ite fun h1 => ok_ite fun h2 _ => ⟨_, _, ‹_›, by simpa using h1, by simpa using h2⟩

theorem getConn_ok {s : ChainState} {ch : Channel} {hop : Id} {conn : ConnEnd} (h : getConn s ch = .ok (hop, conn)) :
    ch.hops.head? = some hop ∧ s.conn.get hop = some conn := by
  unfold getConn hop0 at h
  cases hl : ch.hops with
  | nil => rw [hl] at h; cases h
  | cons y ys =>
    rw [hl] at h
    dsimp only at h
    split at h
    · cases h
    · rename_i hc
      cases h
      exact ⟨rfl, hc⟩

end IbcVerif.Chain
