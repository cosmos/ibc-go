/-
  The byte-ordered `iterateConsensusStates` index: insertion / deletion keep it sorted, and because the
  byte order of the keys is the height order (Lemmas/TmBytes) range scans are scans by height.
-/
import IbcVerif.Lemmas.TmBytes
namespace IbcVerif.Tm
open IbcVerif

abbrev Index := List (Bytes × Height)

/-- every entry is stored under the big-endian encoding of the height its value names -/
def Keyed (ix : Index) : Prop := ∀ p ∈ ix, p.1 = beHeight p.2

/-- ascending by height (strictly) -/
def Asc (ix : Index) : Prop := ix.Pairwise (fun p q => hk p.2 < hk q.2)

/-- insertion into the sorted index splits it at the new height (an entry for the same height is replaced) -/
theorem ins_eq (v : Height) : ∀ (ix : Index), Keyed ix → Asc ix →
    Idx.ins (beHeight v) v ix =
      ix.filter (fun p => decide (hk p.2 < hk v)) ++ (beHeight v, v) :: ix.filter (fun p => decide (hk v < hk p.2))
  | [], _, _ => rfl
  | (k', v') :: r, hkd, hs => by
    have e : k' = beHeight v' := hkd (k', v') List.mem_cons_self
    subst e
    have hlt : ∀ x ∈ r, hk v' < hk x.2 := (List.pairwise_cons.mp hs).1
    have ih := ins_eq v r (fun q hq => hkd q (List.mem_cons_of_mem _ hq)) (List.pairwise_cons.mp hs).2
    have above : hk v ≤ hk v' → r.filter (fun p => decide (hk p.2 < hk v)) = [] ∧
        r.filter (fun p => decide (hk v < hk p.2)) = r := fun le =>
      ⟨List.filter_eq_nil_iff.mpr fun x hx => by have := hlt x hx; simp; omega,
       List.filter_eq_self.mpr fun x hx => by have := hlt x hx; simp; omega⟩
    unfold Idx.ins
    by_cases c1 : hk v < hk v'
    · rw [if_pos ((bytesLt_beHeight v v').mpr c1)]
      obtain ⟨a1, a2⟩ := above (Nat.le_of_lt c1)
      simp [a1, a2, c1, Nat.lt_asymm c1]
    · rw [if_neg (mt (bytesLt_beHeight v v').mp c1)]
      by_cases c2 : v = v'
      · subst c2
        obtain ⟨a1, a2⟩ := above (Nat.le_refl _)
        simp [a1, a2]
      · have lt : hk v' < hk v := by have := mt hk_inj.mp c2; omega
        rw [if_neg (mt beHeight_inj c2), ih]
        simp [lt, Nat.lt_asymm lt]

theorem mem_ins (v : Height) (ix : Index) (hkd : Keyed ix) (hs : Asc ix) (q : Bytes × Height) :
    q ∈ Idx.ins (beHeight v) v ix ↔ (q = (beHeight v, v) ∨ (q ∈ ix ∧ q.2 ≠ v)) := by
  have ne : q.2 ≠ v ↔ (hk q.2 < hk v ∨ hk v < hk q.2) := by rw [ne_eq, ← hk_inj]; omega
  rw [ins_eq v ix hkd hs, ne, and_or_left, or_left_comm]
  simp only [List.mem_append, List.mem_cons, List.mem_filter, decide_eq_true_eq]

theorem keyed_ins (v : Height) (ix : Index) (hkd : Keyed ix) (hs : Asc ix) : Keyed (Idx.ins (beHeight v) v ix) := by
  intro q hq
  rcases (mem_ins v ix hkd hs q).mp hq with h | ⟨h, _⟩
  · subst h; rfl
  · exact hkd q h

theorem asc_ins (v : Height) (ix : Index) (hkd : Keyed ix) (hs : Asc ix) : Asc (Idx.ins (beHeight v) v ix) := by
  rw [ins_eq v ix hkd hs]
  refine List.pairwise_append.mpr ⟨hs.filter _, List.pairwise_cons.mpr ⟨fun x hx => ?_, hs.filter _⟩, fun x hx y hy => ?_⟩
  · exact of_decide_eq_true (List.mem_filter.mp hx).2
  · have hx' := of_decide_eq_true (List.mem_filter.mp hx).2
    rcases List.mem_cons.mp hy with e | hy'
    · exact e ▸ hx'
    · have := of_decide_eq_true (List.mem_filter.mp hy').2
      omega

theorem mem_del (v : Height) (ix : Index) (hkd : Keyed ix) (q : Bytes × Height) :
    q ∈ Idx.del (beHeight v) ix ↔ (q ∈ ix ∧ q.2 ≠ v) := by
  unfold Idx.del
  simp only [List.mem_filter, Bool.not_eq_eq_eq_not, Bool.not_true, decide_eq_false_iff_not]
  exact and_congr_right fun h1 => not_congr ⟨fun e => beHeight_inj (by rw [← hkd q h1, e]), fun e => by rw [hkd q h1, e]⟩

theorem get_eq_some (ix : Index) (hkd : Keyed ix) (h v : Height) :
    Idx.get ix (beHeight h) = some v ↔ (v = h ∧ ∃ p ∈ ix, p.2 = h) := by
  unfold Idx.get
  cases hf : ix.find? (fun p => decide (p.1 = beHeight h)) with
  | none =>
    refine ⟨fun e => (nomatch e), fun ⟨_, p, hp, e⟩ => ?_⟩
    have := List.find?_eq_none.mp hf p hp
    rw [hkd p hp, e] at this
    simp at this
  | some p =>
    have hp := List.mem_of_find?_eq_some hf
    have e : p.2 = h := beHeight_inj (by rw [← hkd p hp]; simpa using List.find?_some hf)
    exact ⟨fun ev => ⟨(Option.some.inj ev).symm.trans e, p, hp, e⟩, fun ⟨ev, _⟩ => by rw [ev, ← e]⟩

theorem get_isSome (ix : Index) (hkd : Keyed ix) (h : Height) :
    (Idx.get ix (beHeight h)).isSome ↔ ∃ p ∈ ix, p.2 = h := by
  rw [Option.isSome_iff_exists]
  exact ⟨fun ⟨v, e⟩ => ((get_eq_some ix hkd h v).mp e).2, fun e => ⟨h, (get_eq_some ix hkd h h).mpr ⟨rfl, e⟩⟩⟩

theorem bytesLt_keyed {ix : Index} (hkd : Keyed ix) {p : Bytes × Height} (hp : p ∈ ix) (h : Height) :
    bytesLt p.1 (beHeight h) = decide (hk p.2 < hk h) := by
  rw [hkd p hp, Bool.eq_iff_iff, bytesLt_beHeight, decide_eq_true_iff]

/-- a range scan from `IterationKey(h)` upwards is the scan of the heights ≥ h -/
theorem seekGE_eq (ix : Index) (hkd : Keyed ix) (h : Height) :
    Idx.seekGE (beHeight h) ix = ix.filter (fun p => decide (hk h ≤ hk p.2)) :=
  List.filter_congr fun p hp => by rw [bytesLt_keyed hkd hp, ← decide_not]; exact decide_eq_decide.mpr Nat.not_lt

/-- a reverse range scan below `IterationKey(h)` is the reversed scan of the heights < h -/
theorem seekLT_eq (ix : Index) (hkd : Keyed ix) (h : Height) :
    Idx.seekLT (beHeight h) ix = (ix.filter (fun p => decide (hk p.2 < hk h))).reverse :=
  congrArg List.reverse (List.filter_congr fun _ hp => bytesLt_keyed hkd hp h)

/-- on an ascending index the scan from `x` upwards, without a leading entry for `x` itself, is the scan of the
    heights strictly above `x` -/
theorem scan_above (ix : Index) (hs : Asc ix) (x : Height) :
    ix.filter (fun p => decide (hk x < hk p.2)) =
      match ix.filter (fun p => decide (hk x ≤ hk p.2)) with
      | [] => []
      | (k, v) :: rest => if v = x then rest else (k, v) :: rest := by
  have e : ix.filter (fun p => decide (hk x < hk p.2)) =
      (ix.filter (fun p => decide (hk x ≤ hk p.2))).filter (fun p => decide (hk x < hk p.2)) := by
    rw [List.filter_filter]
    exact List.filter_congr fun p _ => by simp; omega
  have asc : Asc (ix.filter (fun p => decide (hk x ≤ hk p.2))) := List.Pairwise.filter _ hs
  have mem : ∀ p ∈ ix.filter (fun p => decide (hk x ≤ hk p.2)), hk x ≤ hk p.2 := fun p hp => by
    simpa using (List.mem_filter.mp hp).2
  rw [e]
  cases hf : ix.filter (fun p => decide (hk x ≤ hk p.2)) with
  | nil => rfl
  | cons a rest =>
    obtain ⟨k, v⟩ := a
    rw [hf] at asc mem
    have hv := mem (k, v) List.mem_cons_self
    have hrest : rest.filter (fun p => decide (hk x < hk p.2)) = rest :=
      List.filter_eq_self.mpr fun p hp => by
        have : hk v < hk p.2 := (List.pairwise_cons.mp asc).1 p hp
        simp at hv ⊢; omega
    rw [List.filter_cons, hrest]
    by_cases c : v = x
    · simp [c]
    · have : hk x < hk v := by have := mt hk_inj.mp c; simp at hv; omega
      simp [c, this]

end IbcVerif.Tm
