/-
  Model/Proto.lean, first pass (`rejectUnknown`, i.e. `RejectUnknownFieldsStrict`): one round of `rejectLoop` over a
  known field; the loop accepts every `encode vals` and stops with an error at the first field number outside `1..k`.
-/
import IbcVerif.Lemmas.ProtoVarint
namespace IbcVerif.Proto
open IbcVerif

theorem encField_nonempty (num : Nat) (v : Bytes) (h : v ≠ []) : encField num v = encRawField num v := by
  cases v with
  | nil => exact absurd rfl h
  | cons x xs => rfl

theorem encRawField_length_pos (num : Nat) (v : Bytes) : 0 < (encRawField num v).length := by
  have := encVarint_length_pos (tagOf num)
  simp only [encRawField, List.length_append]; omega

theorem tagOf_div (num : Nat) : tagOf num / 8 = num := by rw [tagOf, Nat.mul_comm, Nat.mul_add_div (by decide)]; rfl
theorem tagOf_mod (num : Nat) : tagOf num % 8 = 2 := by rw [tagOf, Nat.mul_comm, Nat.mul_add_mod]

theorem rawField_header (strict : Bool) {d v : Bytes} {num i : Nat} (hd : HasAt d i (encRawField num v))
    (hnum : tagOf num < 2 ^ 64) (hv : v.length < 2 ^ 64) :
    ∃ i1 i2, varint strict d i = .ok (tagOf num, i1) ∧ varint strict d i1 = .ok (v.length, i2) ∧
      HasAt d i2 v ∧ i2 + v.length = i + (encRawField num v).length := by
  unfold encRawField at hd ⊢
  have hp := hd.right
  rw [List.length_append, ← Nat.add_assoc] at hp
  exact ⟨_, _, varint_enc strict _ hnum d i hd.left.left, varint_enc strict _ hv d _ hd.left.right, hp, by
    simp only [List.length_append, Nat.add_assoc]⟩

theorem rejectLoop_step (k fuel : Nat) (d v : Bytes) (num i : Nat) (hd : HasAt d i (encRawField num v))
    (h1 : 1 ≤ num) (hk : num ≤ k) (hk31 : k < 2 ^ 31) (hv : v.length < 2 ^ 64) :
    rejectLoop k (fuel + 1) d i = rejectLoop k fuel d (i + (encRawField num v).length) := by
  obtain ⟨i1, i2, ht, hl, hp, he⟩ := rawField_header true hd (by unfold tagOf; omega) hv
  have hle := hp.le
  have hpos := encRawField_length_pos num v
  rw [rejectLoop, if_neg (by omega), ht]
  rw [G.bind_ok]
  dsimp only
  rw [tagOf_div, tagOf_mod, if_neg (by omega), if_neg (by omega), if_pos hk, if_neg (by simp), hl]
  rw [G.bind_ok]
  dsimp only
  rw [if_neg (by omega), he]

theorem rejectLoop_encFields (k : Nat) (hk31 : k < 2 ^ 31) (d : Bytes) : ∀ (vals : List Bytes) (num fuel i : Nat),
    HasAt d i (encFieldsFrom num vals) → d.length = i + (encFieldsFrom num vals).length →
    1 ≤ num → num + vals.length ≤ k + 1 → (encFieldsFrom num vals).length + 1 ≤ fuel →
    (∀ v ∈ vals, v.length < 2 ^ 64) → rejectLoop k fuel d i = .ok ()
  | [], num, fuel, i, _, hl, _, _, hf, _ => by
    obtain ⟨f, rfl⟩ : ∃ f, fuel = f + 1 := ⟨fuel - 1, by omega⟩
    rw [rejectLoop, if_pos (by rw [hl]; exact Nat.le_refl i)]
  | v :: vs, num, fuel, i, hd, hl, h1, hk, hf, hv => by
    have hvs : ∀ x ∈ vs, x.length < 2 ^ 64 := fun x hx => hv x (List.mem_cons_of_mem _ hx)
    rw [List.length_cons] at hk
    by_cases he : v = []
    · subst he
      exact rejectLoop_encFields k hk31 d vs (num + 1) fuel i hd hl (by omega) (by omega) hf hvs
    · rw [encFieldsFrom, encField_nonempty num v he] at hd hl hf
      rw [List.length_append] at hl hf
      have hp := encRawField_length_pos num v
      obtain ⟨f, rfl⟩ : ∃ f, fuel = f + 1 := ⟨fuel - 1, by omega⟩
      rw [rejectLoop_step k f d v num i hd.left h1 (by omega) hk31 (hv v List.mem_cons_self)]
      exact rejectLoop_encFields k hk31 d vs (num + 1) f _ hd.right (by omega) (by omega) (by omega) (by omega) hvs

theorem rejectUnknown_encode (k : Nat) (hk31 : k < 2 ^ 31) (vals : List Bytes) (hl : vals.length = k)
    (hv : ∀ v ∈ vals, v.length < 2 ^ 64) : rejectUnknown k (encode vals) = .ok () :=
  rejectLoop_encFields k hk31 _ vals 1 _ 0 (HasAt.self _) (by simp [encode]) (by omega) (by omega)
    (by simp [encode]) hv

/-- a sequence of raw length-delimited fields (numbers arbitrary, empty payloads written) -/
def encRaws (fs : List (Nat × Bytes)) : Bytes := fs.flatMap (fun f => encRawField f.1 f.2)

theorem rejectLoop_unknown (k : Nat) (hk31 : k < 2 ^ 31) (d : Bytes) : ∀ (fs : List (Nat × Bytes)) (fuel i num wt : Nat),
    HasAt d i (encRaws fs ++ encVarint (num * 8 + wt)) →
    (∀ f ∈ fs, 1 ≤ f.1 ∧ f.1 ≤ k ∧ f.2.length < 2 ^ 64) →
    wt < 8 → num * 8 + wt < 2 ^ 64 → (num = 0 ∨ k < num) → fs.length + 1 ≤ fuel →
    ∃ e, rejectLoop k fuel d i = .err e
  | [], fuel, i, num, wt, hd, _, hwt, htag, hnum, hf => by
    obtain ⟨f, rfl⟩ : ∃ f, fuel = f + 1 := ⟨fuel - 1, by simp at hf; omega⟩
    have hd : HasAt d i (encVarint (num * 8 + wt)) := hd
    have hl : i < d.length := Nat.lt_of_lt_of_le (Nat.lt_add_of_pos_right (encVarint_length_pos _)) hd.le
    rw [rejectLoop, if_neg (by omega), varint_enc true _ htag d i hd]
    rw [G.bind_ok]
    dsimp only
    rw [show (num * 8 + wt) / 8 = num by omega]
    by_cases h1 : num > 2147483647
    · exact ⟨_, if_pos h1⟩
    · rw [if_neg h1]
      by_cases h2 : num < 1
      · exact ⟨_, if_pos h2⟩
      · rw [if_neg h2, if_neg (by omega)]; exact ⟨_, rfl⟩
  | f0 :: fs, fuel, i, num, wt, hd, hfs, hwt, htag, hnum, hf => by
    obtain ⟨f, rfl⟩ : ∃ f, fuel = f + 1 := ⟨fuel - 1, by simp at hf; omega⟩
    have h0 := hfs f0 List.mem_cons_self
    rw [encRaws, List.flatMap_cons, List.append_assoc] at hd
    rw [rejectLoop_step k f d f0.2 f0.1 i hd.left h0.1 h0.2.1 hk31 h0.2.2]
    exact rejectLoop_unknown k hk31 d fs f _ num wt hd.right (fun x hx => hfs x (List.mem_cons_of_mem _ hx))
      hwt htag hnum (by simp at hf; omega)

theorem encRaws_length_ge (fs : List (Nat × Bytes)) : fs.length ≤ (encRaws fs).length := by
  induction fs with
  | nil => simp [encRaws]
  | cons f fs ih =>
    have hp := encRawField_length_pos f.1 f.2
    simp only [encRaws, List.flatMap_cons, List.length_append, List.length_cons] at ih ⊢
    omega

end IbcVerif.Proto
