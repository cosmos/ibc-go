/-
  Lemmas on Model/Keys.lean (ICS-24 store keys): prefix words, identifiers and decimal sequences contain no slash,
  words, kind bytes and decimals are injective, a v1 key consists of slashes and identifier bytes.  The last three
  lemmas (`prefix_mark`, `prefix_sep`, `append_be64_inj`) are list facts the v2 keys need.
-/
import IbcVerif.Model.Keys
import IbcVerif.Lemmas.Split
import IbcVerif.Lemmas.Dec
import IbcVerif.Lemmas.Bytes
namespace IbcVerif.Keys
open IbcVerif

theorem not_slash_mem {s : Bytes} (h : ∀ b ∈ s, idByte b = true) : slash ∉ s :=
  fun m => absurd (h _ m) (by decide)

/-! ### facts about the generated constants (re-checked by `decide` on every build) -/

theorem word_idBytes (k : KindV1) : ∀ b ∈ k.word, idByte b = true := by cases k <;> decide
theorem word_slash_free (k : KindV1) : slash ∉ k.word := not_slash_mem (word_idBytes k)
theorem word_inj (k k' : KindV1) (h : k.word = k'.word) : k = k' := by
  cases k <;> cases k' <;> first | rfl | exact absurd h (by decide +kernel)
theorem ports_idBytes : ∀ b ∈ Gen.keyPortPrefix, idByte b = true := by decide
theorem channels_idBytes : ∀ b ∈ Gen.keyChannelPrefix, idByte b = true := by decide
theorem sequences_idBytes : ∀ b ∈ Gen.keySequencePrefix, idByte b = true := by decide
theorem ports_slash_free : slash ∉ Gen.keyPortPrefix := not_slash_mem ports_idBytes
theorem channels_slash_free : slash ∉ Gen.keyChannelPrefix := not_slash_mem channels_idBytes
theorem kindByte_not_id (k : KindV2) : idByte k.byte = false := by cases k <;> decide
theorem kindByte_ne_slash (k : KindV2) : k.byte ≠ slash := by cases k <;> decide
theorem kindByte_inj (k k' : KindV2) (h : k.byte = k'.byte) : k = k' := by
  cases k <;> cases k' <;> first | rfl | (revert h; decide)
theorem clients_slash_free : slash ∉ Gen.keyClientStorePrefix := by decide

theorem IdOK.slash_free {id : Bytes} (h : IdOK id) : slash ∉ id := not_slash_mem h.2

theorem digit_byte (c : Char) (h : c.isDigit = true) : idByte (UInt8.ofNat c.toNat) = true := by
  obtain ⟨lo, hi⟩ := digit_toNat c h
  have e : (UInt8.ofNat c.toNat).toNat = c.toNat := by rw [UInt8.toNat_ofNat']; omega
  have : (48 ≤ UInt8.ofNat c.toNat && UInt8.ofNat c.toNat ≤ 57) = true := by
    simp only [Bool.and_eq_true, decide_eq_true_eq, UInt8.le_iff_toNat_le, e]
    exact ⟨lo, hi⟩
  simp only [idByte, this, Bool.or_true, Bool.true_or]

theorem decBytes_idBytes (n : Nat) : ∀ b ∈ decBytes n, idByte b = true := by
  intro b hb
  obtain ⟨c, hc, rfl⟩ := List.mem_map.mp hb
  exact digit_byte c (List.all_eq_true.mp (dec_all_digits n) c hc)

theorem decBytes_inj {a b : Nat} (h : decBytes a = decBytes b) : a = b := by
  -- digits are below 256, so the characters are recovered from the bytes
  have inv : ∀ n, (decBytes n).map (fun x => Char.ofNat x.toNat) = dec n := fun n => by
    rw [decBytes, strBytes, List.map_map]
    refine (List.map_congr_left fun c hc => ?_).trans (List.map_id _)
    have := digit_toNat c (List.all_eq_true.mp (dec_all_digits n) c hc)
    simp only [Function.comp, UInt8.toNat_ofNat', id]
    rw [Nat.mod_eq_of_lt (by omega), Char.ofNat_toNat]
  exact dec_injective (by rw [← inv a, ← inv b, h])

theorem v1Segs_ne_nil (k : KindV1) (p c : Bytes) (n : Nat) : v1Segs k p c n ≠ [] := by simp [v1Segs]

theorem v1Segs_idBytes (k : KindV1) (p c : Bytes) (n : Nat) (hp : IdOK p) (hc : IdOK c) :
    ∀ s ∈ v1Segs k p c n, ∀ b ∈ s, idByte b = true := by
  simp only [v1Segs, channelPathSegs, List.cons_append, List.nil_append, List.forall_mem_cons]
  refine ⟨word_idBytes k, ports_idBytes, hp.2, channels_idBytes, hc.2, ?_⟩
  split
  · exact List.forall_mem_cons.2 ⟨sequences_idBytes, List.forall_mem_cons.2 ⟨decBytes_idBytes n, nofun⟩⟩
  · nofun

theorem v1Segs_slash_free (k : KindV1) (p c : Bytes) (n : Nat) (hp : IdOK p) (hc : IdOK c) :
    ∀ s ∈ v1Segs k p c n, slash ∉ s :=
  fun s hs => not_slash_mem (v1Segs_idBytes k p c n hp hc s hs)

theorem v1Key_bytes (k : KindV1) (p c : Bytes) (n : Nat) (hp : IdOK p) (hc : IdOK c) :
    ∀ b ∈ v1Key k p c n, b = slash ∨ idByte b = true := by
  intro b hb
  rcases mem_joinOn slash b _ hb with r | ⟨s, hs, hbs⟩
  · exact Or.inl r
  · exact Or.inr (v1Segs_idBytes k p c n hp hc s hs b hbs)

theorem prefix_mark {α : Type} (x x' : α) (s s' R R' : List α) (hs : x' ∉ s) (hs' : x ∉ s')
    (h : (s ++ x :: R) <+: (s' ++ x' :: R')) : s = s' ∧ x = x' ∧ R <+: R' := by
  induction s generalizing s' with
  | nil =>
    cases s' with
    | nil => exact ⟨rfl, List.cons_prefix_cons.mp h⟩
    | cons b t => exact absurd ((List.cons_prefix_cons.mp h).1 ▸ List.mem_cons_self) hs'
  | cons a s ih =>
    cases s' with
    | nil => exact absurd ((List.cons_prefix_cons.mp h).1 ▸ List.mem_cons_self) hs
    | cons b t =>
      obtain ⟨rfl, h2⟩ := List.cons_prefix_cons.mp h
      obtain ⟨rfl, r⟩ := ih t (fun m => hs (List.mem_cons_of_mem _ m)) (fun m => hs' (List.mem_cons_of_mem _ m)) h2
      exact ⟨rfl, r⟩

theorem prefix_sep {α : Type} (sep : α) (s s' R R' : List α) (hs : sep ∉ s) (hs' : sep ∉ s')
    (h : (s ++ sep :: R) <+: (s' ++ sep :: R')) : s = s' ∧ R <+: R' :=
  let ⟨e, _, p⟩ := prefix_mark sep sep s s' R R' hs hs' h; ⟨e, p⟩

theorem append_be64_inj {a a' : Bytes} {n n' : Nat} (hn : n < 2^64) (hn' : n' < 2^64)
    (h : a ++ be64 n = a' ++ be64 n') : a = a' ∧ n = n' :=
  let ⟨e, hb⟩ := List.append_inj' h ((be64_length n).trans (be64_length n').symm); ⟨e, be64_inj hn hn' hb⟩

end IbcVerif.Keys
