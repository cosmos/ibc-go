/-
  `Tr s s'` — the transition relation every `step` satisfies: a union bound of what the handlers
  can do to the protocol-relevant part of the state, stated field by field.  It is proved once per
  kind of state change (`tr_*`), then `step_tr` assembles them; all history-level invariants (Lemmas/ChainInv)
  are derived from `Tr` alone, never by looking at handler code again.
-/
import IbcVerif.Lemmas.ChainSpec
namespace IbcVerif.Chain
open FMap

/-- allowed changes of a channel end's state by one step -/
def ChanTrans (a b : ChanState) : Prop :=
  a = b ∨ (a = .init ∧ b = .opened) ∨ (a = .tryopen ∧ b = .opened) ∨ (a ≠ .closed ∧ b = .closed)

/-- `e` records a successful send on `id` that was given sequence `q` -/
def Event.isSend (id : Id) (q : Nat) : Event → Bool
  | .send1 _ c q' => c = id ∧ q' = q
  | .send2 c q' _ => c = id ∧ q' = q
  | _ => false

/-- allowed changes of a connection end by one step; an OPEN end only admits the first disjunct
    (the two others start from INIT / TRYOPEN) -/
def ConnStep (e e' : ConnEnd) : Prop :=
  e' = e ∨
  (e.state = .init ∧ e'.state = .opened ∧ e'.client = e.client ∧ e'.cpClient = e.cpClient ∧
    e'.cpPrefix = e.cpPrefix ∧ e'.delay = e.delay ∧ ∃ v, e'.versions = [v] ∧ isSupportedVersion e.versions v = true) ∨
  (e.state = .tryopen ∧ e' = { e with state := .opened })

theorem ConnStep.of_opened {e e' : ConnEnd} (h : ConnStep e e') (ho : e.state = .opened) : e' = e := by
  rcases h with h | ⟨h, _⟩ | ⟨h, _⟩
  · exact h
  · rw [ho] at h; cases h
  · rw [ho] at h; cases h

/-- what must be true of the step that appended callback event `e` to the log -/
def EvOK (s s' : ChainState) : Event → Prop
  | .recv1 p c q => ∃ ch, s.chan.get (p, c) = some ch ∧ ch.state = .opened ∧ s'.chan = s.chan ∧
      ((ch.ordering = .unordered ∧ s.receiptV1.get (p, c, q) = none ∧ s'.receiptV1.get (p, c, q) ≠ none ∧ s'.nextRecv = s.nextRecv) ∨
       (ch.ordering = .ordered ∧ s.nextRecv.get (p, c) = some q ∧ s'.nextRecv.get (p, c) = some (q + 1)))
  | .recv2 d q _ => s.receiptV2.get (d, q) = none ∧ s'.receiptV2.get (d, q) ≠ none
  | .ack1 p c q _ => ∃ ch, s.chan.get (p, c) = some ch ∧ ch.state = .opened ∧ s'.chan = s.chan ∧
      s.commitV1.get (p, c, q) ≠ none ∧ s'.commitV1.get (p, c, q) = none ∧
      (ch.ordering = .ordered → s.nextAck.get (p, c) = some q ∧ s'.nextAck.get (p, c) = some (q + 1))
  | .timeout1 p c q => ∃ ch, s.chan.get (p, c) = some ch ∧
      s.commitV1.get (p, c, q) ≠ none ∧ s'.commitV1.get (p, c, q) = none ∧
      (ch.ordering = .ordered → ∃ ch', s'.chan.get (p, c) = some ch' ∧ ch'.state = .closed)
  | .ack2 c q _ => s.cpV2.get c ≠ none ∧ s.commitV2.get (c, q) ≠ none ∧ s'.commitV2.get (c, q) = none
  | .timeout2 c q _ => s.cpV2.get c ≠ none ∧ s.commitV2.get (c, q) ≠ none ∧ s'.commitV2.get (c, q) = none
  | .send1 _ c q => s.nextSend.get c = some q ∧ s'.nextSend.get c = some (q + 1)
  | .send2 c q _ => s.nextSend.get c = some q ∧ s'.nextSend.get c = some (q + 1)
  | .hs k _ c => (k = "init" ∨ k = "try") → c = fmtChan s.nextChanSeq ∧ s'.nextChanSeq = s.nextChanSeq + 1
  | .genClient id => (∃ t, id = fmtClient t s.nextClientSeq) ∧ s'.nextClientSeq = s.nextClientSeq + 1
  | .genConn id => id = fmtConn s.nextConnSeq ∧ s'.nextConnSeq = s.nextConnSeq + 1

/-- identifiers of clients created through the registered light-client modules -/
def IsClientId (id : Id) : Prop :=
  ∃ t n, parseClientId id = .ok (t, n) ∧ registeredClientTypes.contains t = true

macro "tr_auto" : tactic =>
  `(tactic| (intros; first
    | (simp_all [FMap.get_set, FMap.get_del, ChainState.logAdd, ChainState.appWrite]; done)
    | omega
    | (left; rfl)
    | (simp only [FMap.get_set, FMap.get_del, ChainState.logAdd, ChainState.appWrite] at *; split <;> simp_all; done)
    | (simp only [FMap.get_set, FMap.get_del, ChainState.logAdd, ChainState.appWrite] at *; split at * <;> simp_all; done)
    | (refine Or.inr ⟨_, by simp_all [FMap.get_set, FMap.get_del, ChainState.logAdd, ChainState.appWrite], rfl, rfl, rfl, Or.inl rfl, by simp⟩)
    | (refine Or.inr ⟨_, by simp_all [FMap.get_set, FMap.get_del, ChainState.logAdd, ChainState.appWrite], Or.inl rfl⟩)
    | (left; simp_all [FMap.get_set, FMap.get_del, ChainState.logAdd, ChainState.appWrite]; done)))

structure Tr (s s' : ChainState) : Prop where
  log : s'.log = s.log ∨ ∃ e, s'.log = s.log ++ [e] ∧ EvOK s s' e
  -- channels
  chanOld : ∀ p c ch, s.chan.get (p, c) = some ch → c = fmtChan s.nextChanSeq ∨
      ∃ ch', s'.chan.get (p, c) = some ch' ∧ ch'.ordering = ch.ordering ∧ ch'.cpPort = ch.cpPort ∧ ch'.hops = ch.hops ∧
        ChanTrans ch.state ch'.state ∧
        ((ch'.version ≠ ch.version ∨ ch'.cpChan ≠ ch.cpChan) → ch.state = .init ∧ ch'.state = .opened) := by tr_auto
  chanNew : ∀ p c ch', s.chan.get (p, c) = none → s'.chan.get (p, c) = some ch' →
      c = fmtChan s.nextChanSeq ∧ s'.nextChanSeq = s.nextChanSeq + 1 ∧ (ch'.state = .init ∨ ch'.state = .tryopen) ∧
      s'.nextRecv.get (p, c) = some 1 ∧ s'.nextAck.get (p, c) = some 1 ∧ s'.nextSend.get c = some 1 := by tr_auto
  nChan : s.nextChanSeq ≤ s'.nextChanSeq := by tr_auto
  nConn : s.nextConnSeq ≤ s'.nextConnSeq := by tr_auto
  nClient : s.nextClientSeq ≤ s'.nextClientSeq := by tr_auto
  -- packet receipts / counters
  receiptV1 : ∀ k, s.receiptV1.get k ≠ none → s'.receiptV1.get k ≠ none := by tr_auto
  receiptV2 : ∀ k, s.receiptV2.get k ≠ none → s'.receiptV2.get k ≠ none := by tr_auto
  nextRecv : ∀ p c n, s.nextRecv.get (p, c) = some n →
      s'.nextRecv.get (p, c) = some n ∨
      (s'.nextRecv.get (p, c) = some (n + 1) ∧ s'.log = s.log ++ [.recv1 p c n]) ∨
      c = fmtChan s.nextChanSeq := by tr_auto
  nextAck : ∀ p c n, s.nextAck.get (p, c) = some n →
      s'.nextAck.get (p, c) = some n ∨
      (s'.nextAck.get (p, c) = some (n + 1) ∧ ∃ a, s'.log = s.log ++ [.ack1 p c n a]) ∨
      c = fmtChan s.nextChanSeq := by tr_auto
  nextSend : ∀ id n, s.nextSend.get id = some n →
      s'.nextSend.get id = some n ∨
      (s'.nextSend.get id = some (n + 1) ∧ ∃ e, s'.log = s.log ++ [e] ∧ e.isSend id n = true) ∨
      id = fmtChan s.nextChanSeq ∨ (s.cpV2.get id = none ∧ s.creator.get id ≠ none) := by tr_auto
  nextSendNew : ∀ id n, s.nextSend.get id = none → s'.nextSend.get id = some n →
      n = 1 ∧ (id = fmtChan s.nextChanSeq ∨ (s.cpV2.get id = none ∧ s.creator.get id ≠ none)) ∧
      ((∃ p, s'.chan.get (p, id) ≠ none) ∨ s'.cpV2.get id ≠ none) := by tr_auto
  -- commitments are created only by sends, at the current send counter
  commitV1New : ∀ p c q, s.commitV1.get (p, c, q) = none → s'.commitV1.get (p, c, q) ≠ none →
      s.nextSend.get c = some q ∧ s'.nextSend.get c = some (q + 1) ∧ s.chan.get (p, c) ≠ none := by tr_auto
  commitV2New : ∀ c q, s.commitV2.get (c, q) = none → s'.commitV2.get (c, q) ≠ none →
      s.nextSend.get c = some q ∧ s'.nextSend.get c = some (q + 1) ∧ s.cpV2.get c ≠ none := by tr_auto
  -- v2 counterparties / clients
  cpV2 : ∀ id, s.cpV2.get id ≠ none → s'.cpV2.get id ≠ none := by tr_auto
  cpV2New : ∀ id, s.cpV2.get id = none → s'.cpV2.get id ≠ none →
      (∃ p, s.chan.get (p, id) ≠ none) ∨ s.creator.get id ≠ none := by tr_auto
  clientState : ∀ id, s.clientState.get id ≠ none → s'.clientState.get id ≠ none := by tr_auto
  clientStateNew : ∀ id, s.clientState.get id = none → s'.clientState.get id ≠ none →
      IsClientId id ∧ (∃ t, id = fmtClient t s.nextClientSeq) ∧ s'.nextClientSeq = s.nextClientSeq + 1 := by tr_auto
  creatorNew : ∀ id, s.creator.get id = none → s'.creator.get id ≠ none → s'.clientState.get id ≠ none := by tr_auto
  -- acknowledgements are write-once
  ackV1 : ∀ k v, s.ackV1.get k = some v → s'.ackV1.get k = some v := by tr_auto
  ackV2 : ∀ k v, s.ackV2.get k = some v → s'.ackV2.get k = some v := by tr_auto
  -- a v2 acknowledgement needs a receipt; asynchronous packets live from the receive to the ack write
  ackV2New : ∀ k, s.ackV2.get k = none → s'.ackV2.get k ≠ none →
      s'.receiptV2.get k ≠ none ∧
      (s'.asyncV2.get k = none ∨ s.receiptV2.get k = none ∨ ∃ k' p, s.asyncV2.get k' = some p ∧ (p.dst, p.seq) ≠ k') := by tr_auto
  asyncNew : ∀ k p, s.asyncV2.get k = none → s'.asyncV2.get k = some p →
      (p.dst, p.seq) = k ∧ s.receiptV2.get k = none ∧ s'.receiptV2.get k ≠ none ∧ s'.ackV2.get k = s.ackV2.get k := by tr_auto
  asyncOld : ∀ k p, s.asyncV2.get k = some p →
      s'.asyncV2.get k = some p ∨
      (s'.asyncV2.get k = none ∧ (((p.dst, p.seq) = k ∧ s.ackV2.get k = none ∧ s'.ackV2.get k ≠ none) ∨ (p.dst, p.seq) ≠ k)) ∨
      s.receiptV2.get k = none := by tr_auto
  -- connections
  connOld : ∀ c e, s.conn.get c = some e → c = fmtConn s.nextConnSeq ∨ ∃ e', s'.conn.get c = some e' ∧ ConnStep e e' := by tr_auto
  connNew : ∀ c e', s.conn.get c = none → s'.conn.get c = some e' →
      c = fmtConn s.nextConnSeq ∧ s'.nextConnSeq = s.nextConnSeq + 1 ∧ (e'.state = .init ∨ e'.state = .tryopen) ∧
      e'.client ≠ localhostClient ∧ (e'.state = .tryopen → ∃ v, e'.versions = [v]) := by tr_auto

theorem ne_or_ne_elim {α β : Type} {a : α} {b : β} {P : Prop} (h : a ≠ a ∨ b ≠ b) : P := h.elim (absurd rfl) (absurd rfl)

theorem Tr.refl (s : ChainState) : Tr s s where
  log := .inl rfl
  chanOld _ _ ch h := .inr ⟨ch, h, rfl, rfl, rfl, .inl rfl, ne_or_ne_elim⟩
  chanNew _ _ _ h0 h1 := none_some_elim h0 h1
  nChan := Nat.le_refl _
  nConn := Nat.le_refl _
  nClient := Nat.le_refl _
  receiptV1 _ h := h
  receiptV2 _ h := h
  nextRecv _ _ _ h := .inl h
  nextAck _ _ _ h := .inl h
  nextSend _ _ h := .inl h
  nextSendNew _ _ h0 h1 := none_some_elim h0 h1
  commitV1New _ _ _ h0 h1 := absurd h0 h1
  commitV2New _ _ h0 h1 := absurd h0 h1
  cpV2 _ h := h
  cpV2New _ h0 h1 := absurd h0 h1
  clientState _ h := h
  clientStateNew _ h0 h1 := absurd h0 h1
  creatorNew _ h0 h1 := absurd h0 h1
  ackV1 _ _ h := h
  ackV2 _ _ h := h
  ackV2New _ h0 h1 := absurd h0 h1
  asyncNew _ _ h0 h1 := none_some_elim h0 h1
  asyncOld _ _ h := .inl h
  connOld _ e h := .inr ⟨e, h, .inl rfl⟩
  connNew _ _ h0 h1 := none_some_elim h0 h1

end IbcVerif.Chain
