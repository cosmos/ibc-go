/-
  Lemmas for the GMP model (C39): injectivity of the length-prefixed concatenation, authentication
  and message-loop characterisations.
-/
import IbcVerif.Model.Gmp
import IbcVerif.Lemmas.Bytes
import IbcVerif.Lemmas.Except
import IbcVerif.Lemmas.AppsKV
namespace IbcVerif.Gmp
open IbcVerif IbcVerif.Apps

theorem lp_append_inj {a a' x x' : Bytes} (ha : a.length < 2 ^ 64) (ha' : a'.length < 2 ^ 64)
    (h : lp a ++ x = lp a' ++ x') : a = a' ∧ x = x' := by
  unfold lp at h
  rw [List.append_assoc, List.append_assoc] at h
  have h8 : (be64 a.length).length = (be64 a'.length).length := by rw [be64_length, be64_length]
  obtain ⟨h1, h2⟩ := List.append_inj h h8
  have hl : a.length = a'.length := be64_inj ha ha' h1
  exact List.append_inj h2 hl

theorem accountKey_inj {c s t c' s' t' : Bytes}
    (hc : c.length < 2 ^ 64) (hs : s.length < 2 ^ 64) (ht : t.length < 2 ^ 64)
    (hc' : c'.length < 2 ^ 64) (hs' : s'.length < 2 ^ 64) (ht' : t'.length < 2 ^ 64)
    (h : accountKey c s t = accountKey c' s' t') : c = c' ∧ s = s' ∧ t = t' := by
  unfold accountKey at h
  rw [List.append_assoc, List.append_assoc] at h
  obtain ⟨h1, h2⟩ := lp_append_inj hc hc' h
  obtain ⟨h3, h4⟩ := lp_append_inj hs hs' h2
  have h5 := lp_append_inj (x := []) (x' := []) ht ht' (by simpa using h4)
  exact ⟨h1, h3, h5.1⟩

/-- every message has exactly one signer and it is the account -/
def SingleSigner {σ : Type} (account : String) (m : Ica.Msg σ) : Prop := m.signers = [account]

theorem authenticate_go_none {σ : Type} (account : String) (msgs : List (Ica.Msg σ)) :
    authenticateTx.go account msgs = none ↔ ∀ m ∈ msgs, SingleSigner account m := by
  induction msgs with
  | nil => simp [authenticateTx.go]
  | cons m t ih =>
    simp only [authenticateTx.go, List.mem_cons, forall_eq_or_imp, ← ih]
    unfold SingleSigner
    split
    · rename_i s hs
      simp only [hs, some_else_eq_none, bne_iff_ne, ne_eq, Decidable.not_not, List.cons.injEq, and_true]
    · rename_i hne
      simpa using fun h => absurd h (hne account)

/-- the success condition of `Gmp.runMsgs` (the message loop of `Ica.runMsgs` with GMP's error type), same
    shape as `Ica.HandlersOk` -/
def HandlersOk {σ : Type} : List (Ica.Msg σ) → σ → Prop
  | [], _ => True
  | m :: t, s => m.vbOk = true ∧ m.routed = true ∧ ∃ s', m.handler s = some s' ∧ HandlersOk t s'

theorem runMsgs_ok_iff {σ : Type} (msgs : List (Ica.Msg σ)) (s : σ) :
    (∃ s', runMsgs msgs s = .ok s') ↔ HandlersOk msgs s := by
  induction msgs generalizing s with
  | nil => simp [runMsgs, HandlersOk]
  | cons m t ih =>
    simp only [runMsgs, HandlersOk, error_else_eq_ok, ← ih, Bool.not_eq_true', Bool.not_eq_false,
      exists_and_left]
    cases m.handler s <;> simp

theorem authenticateTx_none {σ : Type} (account : String) (msgs : List (Ica.Msg σ)) :
    authenticateTx account msgs = none ↔ msgs ≠ [] ∧ ∀ m ∈ msgs, SingleSigner account m := by
  unfold authenticateTx
  cases msgs with
  | nil => simp
  | cons m t =>
    simp only [List.isEmpty_cons, Bool.false_eq_true, if_false, ne_eq, reduceCtorEq, not_false_eq_true, true_and]
    exact authenticate_go_none account (m :: t)

theorem executeTx_ok_iff {σ : Type} (account : String) (msgs : List (Ica.Msg σ)) (s : σ) :
    (executeTx account msgs s).2 = none ↔ authenticateTx account msgs = none ∧ ∃ s', runMsgs msgs s = .ok s' := by
  unfold executeTx
  cases authenticateTx account msgs <;> cases runMsgs msgs s <;> simp

/-- use a list of triples one after the other -/
def useAll (H : Bytes → Bytes) (acc : Accounts) (ts : List Triple) : Accounts :=
  ts.foldl (fun a t => (getOrCreate H a t).1) acc

theorem getOrCreate_keeps {H : Bytes → Bytes} {acc : Accounts} {t t' : Triple} {a : Bytes}
    (h : KV.get acc t = some a) : KV.get (getOrCreate H acc t').1 t = some a := by
  unfold getOrCreate
  cases hg : KV.get acc t' with
  | some a' => simpa using h
  | none =>
    simp only [KV.get_set]
    by_cases he : t' = t
    · exact nomatch (he ▸ hg).symm.trans h
    · simp [he, h]

end IbcVerif.Gmp
