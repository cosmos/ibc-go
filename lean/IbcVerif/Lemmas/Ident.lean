/-
  Lemmas on Model/Ident.lean: a formatted identifier `type-seq` splits at its last dash and parses back to its
  sequence, and which identifiers pass the length-and-alphabet rule.
-/
import IbcVerif.Model.Ident
import IbcVerif.Lemmas.Split
import IbcVerif.Lemmas.Dec
namespace IbcVerif.Ident
open IbcVerif

theorem splitLastDash_append (t d : List Char) (hd : '-' ∉ d) : splitLastDash (t ++ '-' :: d) = some (t, d) := by
  unfold splitLastDash
  rw [splitOn_append_right '-' t d hd, List.reverse_append]
  cases hs : (splitOn '-' t).reverse with
  | nil => exact absurd (List.reverse_eq_nil_iff.mp hs) (splitOn_ne_nil _ _)
  | cons r rest =>
    show some (joinOn '-' (r :: rest).reverse, d) = some (t, d)
    rw [← hs, List.reverse_reverse, joinOn_splitOn]

theorem dec_length_le_20 (n : Nat) (h : n < 2^64) : (dec n).length ≤ 20 := by
  unfold dec
  rw [Nat.length_toDigits_le_iff (by decide) (by decide)]
  have : (2:Nat)^64 < 10^20 := by decide
  omega

theorem dec_length_pos (n : Nat) : 0 < (dec n).length := Nat.length_toDigits_pos

theorem digits1to20_dec (n : Nat) (h : n < 2^64) : digits1to20 (dec n) = true := by
  simp [digits1to20, dec_length_le_20 n h, dec_all_digits n, dec_ne_nil n]

theorem dash_not_in_dec (n : Nat) : '-' ∉ dec n := not_mem_dec_of_not_digit _ _ (by decide)

theorem format_ne_localhost (t : List Char) (n : Nat) : formatClientIdentifier t n ≠ localhostID := by
  intro h
  have e := splitLastDash_append t (dec n) (dash_not_in_dec n)
  unfold formatClientIdentifier at h
  rw [h] at e
  rw [show splitLastDash localhostID = some (['0', '9'], ['l', 'o', 'c', 'a', 'l', 'h', 'o', 's', 't']) by decide] at e
  have hd := dec_all_digits n
  rw [← (Prod.mk.inj (Option.some.inj e)).2] at hd
  exact absurd hd (by decide)

theorem parse_format_client (t : List Char) (n : Nat) (hn : n < 2^64) :
    parseClientIdentifier (formatClientIdentifier t n) = if typeShape t then some (t, n) else none := by
  rw [parseClientIdentifier, if_neg (format_ne_localhost t n), isClientIDFormat, formatClientIdentifier,
    splitLastDash_append t (dec n) (dash_not_in_dec n)]
  simp [digits1to20_dec n hn, parseUint64_dec n hn]

theorem idChar_of_isDigit (c : Char) (h : c.isDigit = true) : idChar c = true := by
  simp [idChar, Char.isAlphanum, h]

theorem dec_all_idChar (n : Nat) : (dec n).all idChar = true := by
  rw [List.all_eq_true]
  intro c hc
  exact idChar_of_isDigit c (List.all_eq_true.mp (dec_all_digits n) c hc)

/-- an identifier `p ++ dec n` passes the length-and-alphabet rule for every 64-bit `n` as soon as it does for the
    shortest and the longest sequence number (this is how `ValidateClientType` checks a client type) -/
theorem validId_append_dec (p : List Char) (mn mx n : Nat) (hn : n < 2^64)
    (h0 : validId (p ++ dec 0) mn mx = true) (hmax : validId (p ++ dec maxU64) mn mx = true) :
    validId (p ++ dec n) mn mx = true := by
  have l0 : (dec 0).length = 1 := by decide
  have lmax : (dec maxU64).length = 20 := by decide
  have ln1 := dec_length_pos n
  have ln2 := dec_length_le_20 n hn
  simp only [validId, Bool.and_eq_true, Bool.not_eq_true', decide_eq_true_eq, List.length_append, List.all_append,
    List.isEmpty_eq_false_iff, ne_eq, List.append_eq_nil_iff, not_and] at h0 hmax ⊢
  exact ⟨⟨⟨fun _ => dec_ne_nil n, by omega⟩, by omega⟩, h0.2.1, dec_all_idChar n⟩

end IbcVerif.Ident
