/-
  Small concrete states used by the non-vacuity `example`s of the chain property files.
-/
import IbcVerif.Lemmas.ChainInv2
namespace IbcVerif.Chain.Ex

def chOpen : Channel := ⟨.opened, .unordered, "mock", "channel-9", ["connection-0"], "v"⟩
def chClosedOrdered : Channel := ⟨.closed, .ordered, "mock", "channel-9", ["connection-0"], "v"⟩
/-- a state with one OPEN UNORDERED channel end -/
def sOpen : ChainState := { Chain.init with chan := FMap.empty.set ("mock", "channel-0") chOpen, nextChanSeq := 1 }
/-- a state with one CLOSED ORDERED channel end -/
def sClosed : ChainState := { Chain.init with chan := FMap.empty.set ("mock", "channel-0") chClosedOrdered, nextChanSeq := 1 }
/-- a packet addressed to that end -/
def pkIn : PacketV1 := ⟨1, "mock", "channel-9", "mock", "channel-0", 1, 100, 0, "02"⟩
/-- a packet sent from that end -/
def pkOut : PacketV1 := ⟨1, "mock", "channel-0", "mock", "channel-9", 1, 100, 0, "02"⟩
def lcOK : LcEnv := ⟨.active, [], ⟨1, 30⟩, [], some 1577923200000000000, true, true, true, true, true⟩
def envOK : Env := ⟨5, 1577923200000000000, "alice", lcOK, "t", true⟩
def appOK : AppV1 := ⟨1, false, .ok, "aa", none⟩

end IbcVerif.Chain.Ex
