/-
  Lemmas for the ICS-27 channel-lifecycle model (C38): what each handler accepts and what it changes
  (a refused call leaves the world as it was), and the controller-side invariant
  "an OPEN interchain-account channel is the active channel of its (connection, port); the active
  channel is OPEN or CLOSED", preserved by every op of the two-chain world.
-/
import IbcVerif.Lemmas.Ica
import IbcVerif.Lemmas.AppsKV
namespace IbcVerif.Ica
open IbcVerif.Apps

structure CInv (s : Side) : Prop where
  fresh : ∀ n, s.next ≤ n → s.chan n = none
  openIsActive : ∀ id c, s.chan id = some c → c.state = .opened → KV.get s.active (c.conn, c.port) = some id
  activeSettled : ∀ k id, KV.get s.active k = some id →
    ∃ c, s.chan id = some c ∧ c.conn = k.1 ∧ c.port = k.2 ∧ (c.state = .opened ∨ c.state = .closed)

theorem CInv.empty (en : Bool) : CInv ⟨[], [], [], 0, en⟩ := by
  constructor <;> simp [Side.chan, KV.get]

/-- The handlers are chains of `if refused then error else …`: one step down such a chain, for a property
    `P` of the result that holds of the refusal. -/
@[elab_as_elim]
theorem ite_elim {α : Type} {p : Prop} [Decidable p] {a b : α} {P : α → Prop} {r : α} (h : (if p then a else b) = r)
    (ha : P a) (hb : ¬ p → b = r → P r) : P r := by
  by_cases hp : p
  · exact (if_pos hp).symm.trans h ▸ ha
  · exact hb hp ((if_neg hp).symm.trans h)

theorem validateMeta_eq_none (w : World) (m : Metadata) (c h : String) :
    validateMeta w m c h = none ↔
      supportedEncoding m.encoding = true ∧ supportedTxType m.txType = true ∧ m.ctrlConn = c ∧ m.hostConn = h ∧
      (m.address ≠ "" → w.validAddr m.address = true) ∧ m.version = icaVersion := by
  simp only [validateMeta, some_else_eq_none, Bool.not_eq_true', Bool.not_eq_false, bne_iff_ne, ne_eq,
    Decidable.not_not, Bool.and_eq_true, not_and, and_true]

/-- The ways a step changes the controller side: the enabled flag at most; a fresh channel in INIT;
    ChanOpenAck opening an INIT channel whose key has no OPEN active channel and making it the key's
    active channel; core closing a channel. -/
inductive CtrlStep (s : Side) : Side → Prop
  | flag (en : Bool) : CtrlStep s { s with enabled := en }
  | init (c : Chan) : c.state = .init →
      CtrlStep s { s with chans := KV.set s.chans s.next c, next := s.next + 1 }
  | ack (cid hid : Nat) (cc : Chan) (m : Metadata) (a : String) : s.chan cid = some cc → cc.state = .init →
      s.openActive (cc.conn, cc.port) cc.port = none →
      CtrlStep s { s with
        chans := KV.set s.chans cid { cc with state := .opened, cpChan := some hid, md := some m },
        active := KV.set s.active (cc.conn, cc.port) cid,
        addr := KV.set s.addr (cc.conn, cc.port) a }
  | close (cid : Nat) (cc : Chan) : s.chan cid = some cc →
      CtrlStep s { s with chans := KV.set s.chans cid { cc with state := .closed } }

theorem CtrlStep.refl (s : Side) : CtrlStep s s := .flag s.enabled

theorem Side.openActive_of {s : Side} {k : Key} {id : Nat} {c : Chan} (ha : KV.get s.active k = some id)
    (hc : s.chan id = some c) (ho : c.state = .opened) : s.openActive k c.port = some id := by
  simp [Side.openActive, ha, hc, ho]

theorem CInv.lt_next {s : Side} (h : CInv s) {cid : Nat} {cc : Chan} (h1 : s.chan cid = some cc) : cid < s.next :=
  Nat.lt_of_not_le fun hle => nomatch (h.fresh cid hle).symm.trans h1

theorem CInv.fresh_set {s : Side} (h : CInv s) {cid n : Nat} {c : Chan} (hc : cid < n) (hn : s.next ≤ n) :
    KV.get (KV.set s.chans cid c) n = none := by
  rw [KV.get_set, if_neg (Nat.ne_of_lt hc)]
  exact h.fresh n hn

/-- Writing a channel that is not OPEN, and that keeps connection and port and is CLOSED where it replaces
    one: a fresh channel in INIT, or core closing a channel. -/
theorem CInv.set_chan {s : Side} (h : CInv s) {cid n : Nat} {c' : Chan} (hc : cid < n) (hn : s.next ≤ n)
    (hst : c'.state ≠ .opened)
    (hold : ∀ c, s.chan cid = some c → c'.conn = c.conn ∧ c'.port = c.port ∧ c'.state = .closed) :
    CInv { s with chans := KV.set s.chans cid c', next := n } := by
  constructor
  · exact fun n' hn' => h.fresh_set (Nat.lt_of_lt_of_le hc hn') (Nat.le_trans hn hn')
  · intro id c h1 h2
    simp only [Side.chan, KV.get_set] at h1
    split at h1
    · cases h1
      exact absurd h2 hst
    · exact h.openIsActive id c h1 h2
  · intro k id h1
    obtain ⟨c, h2, h3, h4, h5⟩ := h.activeSettled k id h1
    by_cases he : cid = id
    · subst he
      obtain ⟨e1, e2, e3⟩ := hold c h2
      exact ⟨c', by simp [Side.chan, KV.get_set], e1 ▸ h3, e2 ▸ h4, .inr e3⟩
    · exact ⟨c, by simp only [Side.chan, KV.get_set, he, if_false]; exact h2, h3, h4, h5⟩

theorem CInv.of_step {s s' : Side} (h : CInv s) (hs : CtrlStep s s') : CInv s' := by
  cases hs with
  | flag en => exact ⟨h.fresh, h.openIsActive, h.activeSettled⟩
  | init c hc =>
    exact h.set_chan (Nat.lt_succ_self _) (Nat.le_succ _) (by rw [hc]; nofun) fun c0 h0 =>
      nomatch (h.fresh _ (Nat.le_refl _)).symm.trans h0
  | close cid cc h1 =>
    exact h.set_chan (h.lt_next h1) (Nat.le_refl _) nofun fun c h0 => by
      rw [h1] at h0
      cases h0
      exact ⟨rfl, rfl, rfl⟩
  | ack cid hid cc m a h1 h2 h3 =>
    constructor
    · exact fun n hn => h.fresh_set (Nat.lt_of_lt_of_le (h.lt_next h1) hn) hn
    · intro id c h4 h5
      simp only [Side.chan, KV.get_set] at h4
      split at h4
      · cases h4
        simp [KV.get_set, *]
      · have hold := h.openIsActive id c h4 h5
        simp only [KV.get_set]
        by_cases hk : (cc.conn, cc.port) = (c.conn, c.port)
        · -- then `id` was an OPEN active channel of the key, which has none
          rw [← hk] at hold
          have := Side.openActive_of hold h4 h5
          rw [← (Prod.mk.inj hk).2, h3] at this
          cases this
        · simp only [hk, if_false]; exact hold
    · intro k id h4
      simp only [KV.get_set] at h4
      by_cases hk : (cc.conn, cc.port) = k
      · subst hk
        simp only [if_true, Option.some.injEq] at h4
        subst h4
        exact ⟨{ cc with state := .opened, cpChan := some hid, md := some m }, by simp [Side.chan, KV.get_set],
          rfl, rfl, .inl rfl⟩
      · simp only [hk, if_false] at h4
        obtain ⟨c, h5, h6, h7, h8⟩ := h.activeSettled k id h4
        have hne : cid ≠ id := by
          intro he; subst he
          rw [h1] at h5; cases h5
          rcases h8 with h8 | h8 <;> rw [h2] at h8 <;> cases h8
        refine ⟨c, ?_, h6, h7, h8⟩
        simp only [Side.chan, KV.get_set, hne, if_false]
        exact h5

theorem reopenCheck_none {w : World} {order : Order} {conn port : String} {m : Metadata} {aid : Nat} {c : Chan}
    (h : reopenCheck w order conn port m = none)
    (ha : KV.get w.ctrl.active (conn, port) = some aid) (hc : w.ctrl.chan aid = some c) :
    c.state = .closed ∧ c.order = order ∧ ∃ pm, c.md = some pm ∧ pm.sameButAddress m = true := by
  simp only [reopenCheck, ha, hc, some_else_eq_none, bne_iff_ne, ne_eq, Decidable.not_not] at h
  obtain ⟨h1, h2, h3⟩ := h
  refine ⟨h1, h2, ?_⟩
  split at h3
  · exact ⟨_, by assumption, by simpa using h3⟩
  · cases h3

theorem ctrlOnInit_ok {w : World} {order : Order} {conn port cpPort : String} {v : Option (Option Metadata)}
    {m : Metadata} (h : ctrlOnInit w order conn port cpPort v = .ok m) :
    hasPrefix ctrlPrefix port = true ∧ cpPort = hostPort ∧ reopenCheck w order conn port m = none := by
  simp only [ctrlOnInit, error_else_eq_ok] at h
  obtain ⟨_, _, h2, h3, h⟩ := h
  split at h
  · cases h
  split at h
  · cases h
  split at h
  · cases h
  split at h
  · cases h
  cases h
  exact ⟨by simpa using h2, by simpa using h3, by assumption⟩

/-- what a step does to the world, as far as C38 looks: the controller side moves by a `CtrlStep`, and an
    address the host has stored for a key stays -/
def Moves (w w' : World) : Prop :=
  CtrlStep w.ctrl w'.ctrl ∧ ∀ k a, KV.get w.host.addr k = some a → KV.get w'.host.addr k = some a

theorem Moves.refl {w : World} : Moves w w := ⟨.refl _, fun _ _ h => h⟩

theorem ctrlInit_moves (w : World) (o : Order) (conn port cp : String) (v : Option (Option Metadata)) :
    Moves w (ctrlInit w o conn port cp v).1 := by
  unfold ctrlInit
  split
  · exact .refl
  · split
    · exact .refl
    · exact ⟨.init _ rfl, fun _ _ h => h⟩

theorem register_moves (w : World) (owner conn : String) (v : Option (Option Metadata)) (o : Order) :
    Moves w (register w owner conn v o).1 := by
  unfold register
  split
  · exact .refl
  · dsimp only
    split
    · exact .refl
    · exact ctrlInit_moves w o conn _ _ v

theorem ctrlAck_moves {w : World} {cid hid : Nat} {r : World × Except Err Unit} (h : ctrlAck w cid hid = r) :
    Moves w r.1 := by
  unfold ctrlAck at h
  split at h
  rotate_left
  · exact h ▸ .refl
  rename_i cc hc hcc _
  refine ite_elim h .refl fun hcore h => ?_
  refine ite_elim h .refl fun _ h => ?_
  refine ite_elim h .refl fun _ h => ?_
  refine ite_elim h .refl fun _ h => ?_
  split at h
  · exact h ▸ .refl
  rename_i m _
  split at h
  · exact h ▸ .refl
  rename_i hoa
  split at h
  · exact h ▸ .refl
  split at h
  · exact h ▸ .refl
  rename_i hv
  refine ite_elim h .refl fun _ h => ?_
  rw [((validateMeta_eq_none ..).mp hv).2.2.1] at hoa h
  simp only [Bool.or_eq_true, bne_iff_ne, ne_eq, not_or, Decidable.not_not] at hcore
  exact h ▸ ⟨.ack cid hid cc m m.address hcc hcore.1.1.1 hoa, fun _ _ h => h⟩

theorem timeoutClose_moves (w : World) (cid : Nat) : Moves w (ctrlTimeoutClose w cid).1 := by
  unfold ctrlTimeoutClose
  split
  · split
    · exact ⟨.close cid _ ‹_›, fun _ _ h => h⟩
    · exact .refl
  · exact .refl

theorem hostTry_shape {w : World} {cid : Nat} {r : World × Except Err Nat} (h : hostTry w cid = r) :
    (∃ e, r = (w, .error e)) ∨
    Moves w r.1 ∧ ∃ cc hconn, w.ctrl.chan cid = some cc ∧ KV.get w.peer cc.conn = some hconn ∧
      ∀ aid, KV.get w.host.active (hconn, cc.port) = some aid → ∃ c, w.host.chan aid = some c ∧ c.state = .closed := by
  unfold hostTry at h
  split at h
  · exact .inl ⟨_, h.symm⟩
  rename_i cc hcc
  split at h
  · exact .inl ⟨_, h.symm⟩
  rename_i hconn hpeer
  refine ite_elim h (.inl ⟨_, rfl⟩) fun _ h => ?_
  refine ite_elim h (.inl ⟨_, rfl⟩) fun _ h => ?_
  refine ite_elim h (.inl ⟨_, rfl⟩) fun _ h => ?_
  extract_lets m0 m k activeOk a0 acct id src at h
  generalize validateMeta w m cc.conn hconn = ov at h
  rcases ov with _ | _
  rotate_left
  · exact .inl ⟨_, h.symm⟩
  generalize hact : activeOk = ao at h
  rcases ao with _ | _
  · exact .inl ⟨_, h.symm⟩
  generalize hacct : acct = oa at h
  rcases oa with _ | ⟨a, addr'⟩
  · exact .inl ⟨_, h.symm⟩
  refine .inr ⟨h ▸ ⟨.refl _, fun k' v hk => ?_⟩, cc, hconn, hcc, hpeer, fun aid haid => ?_⟩
  · -- the stored address is reused; a generated one is stored only where none was
    simp only [acct, k] at hacct
    split at hacct
    · cases hacct
      exact hk
    · rename_i hn
      split at hacct <;> cases hacct
      rw [KV.get_set, if_neg fun he => by rw [he, hk] at hn; cases hn]
      exact hk
  · simp only [activeOk, k, haid] at hact
    split at hact
    · cases hact
    · rename_i c hc
      exact ⟨c, hc, by simpa using hact⟩

theorem hostConfirm_moves (w : World) (hid : Nat) : Moves w (hostConfirm w hid).1 := by
  unfold hostConfirm
  repeat' split
  all_goals exact .refl

theorem hostCloseConfirm_moves (w : World) (hid : Nat) : Moves w (hostCloseConfirm w hid).1 := by
  unfold hostCloseConfirm
  repeat' split
  all_goals exact .refl

theorem step_moves (w : World) (op : Op) : Moves w (step w op).1 := by
  cases op with
  | register o c v ord => exact register_moves w o c v ord
  | init ord c p cp v => exact ctrlInit_moves w ord c p cp v
  | hostTry cid =>
    rcases hostTry_shape (w := w) (cid := cid) rfl with ⟨_, h⟩ | ⟨h, _⟩
    · show Moves w (hostTry w cid).1
      rw [h]
      exact .refl
    · exact h
  | ctrlAck cid hid => exact ctrlAck_moves rfl
  | hostConfirm hid => exact hostConfirm_moves w hid
  | timeoutClose cid => exact timeoutClose_moves w cid
  | hostCloseConfirm hid => exact hostCloseConfirm_moves w hid
  | hostInit => exact .refl
  | ctrlTry => exact .refl
  | closeInit => exact .refl
  | setEnabled c on => cases c <;> exact ⟨.flag _, fun _ _ h => h⟩

theorem CInv.run {w : World} (h : CInv w.ctrl) (ops : List Op) : CInv (Ica.run w ops).ctrl := by
  induction ops generalizing w with
  | nil => exact h
  | cons op t ih => exact ih (h.of_step (step_moves w op).1)

end IbcVerif.Ica
