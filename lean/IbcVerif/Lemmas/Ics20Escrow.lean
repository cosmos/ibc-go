/-
  The tracked total escrow of a chain equals the sum of the balances of its transfer escrow
  accounts (when nothing is sent into escrow accounts outside ICS-20 escrowing).
-/
import IbcVerif.Lemmas.Ics20ConserveRun
namespace IbcVerif.Ics20
open IbcVerif IbcVerif.Xfer

/-- tracked total escrow = combined balance of the chain's transfer escrow accounts `es` -/
def EscOK (cfg : Config) (es : List Str) (ch : Chain) : Prop :=
  ∀ d, ch.totalEscrow d = (es.map fun e => ch.bank.bal (cfg.escrowAddr transferPort e) d).sum

theorem le_sum_of_mem {α : Type} {l : List α} (g : α → Nat) (e : α) (he : e ∈ l) : g e ≤ (l.map g).sum := by
  induction l with
  | nil => cases he
  | cons x xs ih =>
    simp only [List.map_cons, List.sum_cons]
    rcases List.mem_cons.mp he with h | h
    · subst h; omega
    · have := ih h; omega

theorem sum_map_indicator {l : List Str} (e : Str) (n : Nat) (hnd : l.Nodup) :
    (l.map fun c => if c = e then n else 0).sum = if e ∈ l then n else 0 := by
  induction l with
  | nil => simp
  | cons x xs ih =>
    simp only [List.nodup_cons] at hnd
    simp only [List.map_cons, List.sum_cons, ih hnd.2, List.mem_cons]
    by_cases hx : x = e
    · subst hx; simp [hnd.1]
    · simp [hx, Ne.symm hx]

theorem sum_map_add' {l : List Str} (f g : Str → Nat) : (l.map fun c => f c + g c).sum = (l.map f).sum + (l.map g).sum := by
  induction l with
  | nil => rfl
  | cons x xs ih => simp only [List.map_cons, List.sum_cons, ih]; omega

theorem sum_map_at {l : List Str} (g g' : Str → Nat) {e₁ e₂ : Str} {i o : Nat} (P : Prop) [Decidable P] (hnd : l.Nodup)
    (h₁ : e₁ ∈ l) (h₂ : e₂ ∈ l)
    (h : ∀ c, g' c + (if c = e₁ ∧ P then o else 0) = g c + (if c = e₂ ∧ P then i else 0)) :
    (l.map g').sum + (if P then o else 0) = (l.map g).sum + (if P then i else 0) := by
  by_cases hP : P
  · simp only [hP, and_true, if_true] at h ⊢
    have := congrArg List.sum (List.map_congr_left (l := l) fun c _ => h c)
    rwa [sum_map_add', sum_map_add', sum_map_indicator _ _ hnd, sum_map_indicator _ _ hnd, if_pos h₁, if_pos h₂] at this
  · simp only [hP, and_false, if_false, Nat.add_zero] at h ⊢
    rw [List.map_congr_left fun c _ => h c]

theorem EscOK.le_total {cfg : Config} {es : List Str} {ch : Chain} (h : EscOK cfg es ch) {e : Str} (he : e ∈ es)
    (d : Str) : ch.bank.bal (cfg.escrowAddr transferPort e) d ≤ ch.totalEscrow d := by
  rw [h d]
  exact le_sum_of_mem (fun e => ch.bank.bal (cfg.escrowAddr transferPort e) d) e he

theorem escOK_congr {cfg : Config} {es : List Str} {ch ch' : Chain}
    (h : EscOK cfg es ch) (hte : ch'.totalEscrow = ch.totalEscrow)
    (hb : ∀ e x, ch'.bank.bal (cfg.escrowAddr transferPort e) x = ch.bank.bal (cfg.escrowAddr transferPort e) x) :
    EscOK cfg es ch' := by
  intro d
  rw [hte, h d]
  exact congrArg List.sum (List.map_congr_left fun e _ => (hb e d).symm)

theorem escOK_user {cfg : Config} {es : List Str} {ch ch' : Chain} (h : EscOK cfg es ch)
    (hte : ch'.totalEscrow = ch.totalEscrow) {s : Addr} (hs : NotEscrow cfg s) {k : Str} {v : Addr → Str → Nat}
    (hbal : ∀ a x, ch'.bank.bal a x = if x = k ∧ a = s then v a x else ch.bank.bal a x) : EscOK cfg es ch' :=
  escOK_congr h hte fun e x => by rw [hbal, if_neg hs.cond]

/-- coin `k`: `o` leaves the escrow account of `e₁`, `i` enters that of `e₂`, and the tracked total follows -/
theorem escOK_event {cfg : Config} {es : List Str} (hnd : es.Nodup) {ch ch' : Chain} (h : EscOK cfg es ch)
    {e₁ e₂ k : Str} {i o : Nat} (h₁ : e₁ ∈ es) (h₂ : e₂ ∈ es)
    (hbal : ∀ e x, ch'.bank.bal (cfg.escrowAddr transferPort e) x + (if e = e₁ ∧ x = k then o else 0) =
      ch.bank.bal (cfg.escrowAddr transferPort e) x + (if e = e₂ ∧ x = k then i else 0))
    (hte : ∀ x, ch'.totalEscrow x + (if x = k then o else 0) = ch.totalEscrow x + (if x = k then i else 0)) :
    EscOK cfg es ch' := by
  intro d
  have := sum_map_at (fun e => ch.bank.bal (cfg.escrowAddr transferPort e) d)
    (fun e => ch'.bank.bal (cfg.escrowAddr transferPort e) d) (d = k) hnd h₁ h₂ fun e => hbal e d
  have := hte d
  have := h d
  omega

theorem escOK_send {cfg : Config} (ha : Assm cfg) {es : List Str} (hnd : es.Nodup) {c : Nat} {ch ch' : Chain}
    {chan : Str} {tok : Denom} {n : Nat} {s : Addr} (h : EscOK cfg es ch) (hchan : chan ∈ es) (hs : NotEscrow cfg s)
    (hst : sendTransfer cfg c ch transferPort chan tok n s = .ok ch') : EscOK cfg es ch' := by
  obtain ⟨_, _, _, hn, heff⟩ := sendTransfer_effect hst
  rcases heff with ⟨_, _, hbal, _, hte⟩ | ⟨_, hbal, _, hte⟩
  · exact escOK_user h hte hs hbal
  · exact escOK_event hnd h hchan hchan (i := n) (o := 0)
      (fun e x => by
        simpa only [hbal, hs.cond, esc_cond ha, if_false, ite_self] using
          moveBal_add (t := cfg.escrowAddr transferPort chan) hn (cfg.escrowAddr transferPort e) x)
      (fun x => by rw [hte]; split_ifs <;> rfl)

theorem escOK_unescrow {cfg : Config} (ha : Assm cfg) {es : List Str} (hnd : es.Nodup) {ch ch' : Chain}
    {chan k : Str} {n : Nat} {r : Addr} (h : EscOK cfg es ch) (hchan : chan ∈ es) (hr : NotEscrow cfg r)
    (hn : n ≤ ch.bank.bal (cfg.escrowAddr transferPort chan) k)
    (hbal : ∀ a x, ch'.bank.bal a x = moveBal ch.bank.bal (cfg.escrowAddr transferPort chan) r k n a x)
    (hte : ∀ x, ch'.totalEscrow x = if x = k then ch.totalEscrow x - n else ch.totalEscrow x) : EscOK cfg es ch' := by
  refine escOK_event hnd h hchan hchan (i := 0) (o := n)
    (fun e x => by
      simpa only [hbal, hr.cond, esc_cond ha, if_false, ite_self] using
        moveBal_add (t := r) hn (cfg.escrowAddr transferPort e) x)
    (fun x => ?_)
  rw [hte]
  split_ifs with hx
  · subst hx; have := h.le_total hchan x; omega
  · rfl

/-- the transfer escrow accounts of every chain: duplicate-free, and containing every channel / client
    identifier that has a counterparty -/
structure EndsOK (cfg : Config) (ends : Nat → List Str) : Prop where
  nodup : ∀ c, (ends c).Nodup
  covers : ∀ c id c' id', cfg.peer c id = some (c', id') → id ∈ ends c

def EscInv (cfg : Config) (ends : Nat → List Str) (w : World) : Prop := ∀ c, EscOK cfg (ends c) (w.chains c)

theorem escOK_refund {cfg : Config} (ha : Assm cfg) {es : List Str} (hnd : es.Nodup) {c : Nat} {ch ch' : Chain}
    {chan : Str} {data : PacketData} (h : EscOK cfg es ch) (hchan : chan ∈ es)
    (hs : ∀ s, cfg.decode data.sender = some s → NotEscrow cfg s)
    (href : refundPacketTokens cfg c ch transferPort chan data = .ok ch') : EscOK cfg es ch' := by
  obtain ⟨s, hsd, _, _, _, heff⟩ := refund_effect href
  rcases heff with ⟨_, hbal, _, hte⟩ | ⟨_, hn, _, hbal, _, hte⟩
  · exact escOK_user h hte (hs s hsd) hbal
  · exact escOK_unescrow ha hnd h hchan (hs s hsd) hn hbal hte

theorem escInv_step {cfg : Config} (ha : Assm cfg) {ends : Nat → List Str} (he : EndsOK cfg ends) {w : World}
    (hi : Inv cfg w) (hesc : EscInv cfg ends w) (op : Op) (hg : Guard w op) (hpo : PartiesOK cfg op) :
    EscInv cfg ends (step cfg w op).1 := by
  obtain ⟨hwi, hl, hpi, _⟩ := hi
  intro c0
  have hs := stepped cfg w op
  generalize (step cfg w op).1 = w', (step cfg w op).2 = r at hs ⊢
  by_cases hc0 : c0 = opChain op
  case neg => rw [hs.other_chain hc0]; exact hesc c0
  cases hs <;> simp only [opChain] at hc0 <;> subst hc0
  case fail => exact hesc _
  case setParams => exact escOK_congr (hesc _) (by rw [setChain_same]) (fun e x => by rw [setChain_same])
  all_goals simp only [World.setChain, if_true]
  case transfer ht =>
    obtain ⟨s, n, tok, hs, _, _, _, _, _, _, _, _, _, hpeer, _, hst⟩ := transfer_ok ht
    rcases hst with ⟨_, hst⟩ | ⟨_, _, hst⟩ <;>
      exact escOK_send ha (he.nodup _) (hesc _) (he.covers _ _ _ _ hpeer) (hpo.1 s hs) hst
  case sendV2 ht =>
    obtain ⟨s, _, hs', _, _, _, _, _, _, hpeer, _, _, _, hst⟩ := sendPacketV2_ok ht
    exact escOK_send ha (he.nodup _) (hesc _) (he.covers _ _ _ _ hpeer) (hpo.1 s hs') hst
  case recv p _ _ hr =>
    obtain ⟨hps, _, _⟩ := hg
    obtain ⟨_, _, hsp, hdp, hpp, _⟩ := hwi.sent p hps
    rcases recvPacket_ok hr with ⟨_, hon⟩ | ⟨_, rfl⟩
    · obtain ⟨r, hrd, _, _, _, heff⟩ := onRecvPacket_effect hon
      have hrne : NotEscrow cfg r := (hpi p hps).2 r hrd
      rw [hdp] at heff
      rcases heff with ⟨_, _, hn, _, hbal, _, hte⟩ | ⟨_, _, hbal, _, hte⟩
      · exact escOK_unescrow ha (he.nodup _) (hesc _) (he.covers _ _ _ _ (ha.peerSym _ _ _ _ hpp)) hrne hn hbal hte
      · exact escOK_user (hesc _) hte hrne hbal
    · exact hesc _
  case ack p _ _ hak =>
    obtain ⟨hps, _, _, _⟩ := hg
    obtain ⟨_, _, hsp, _, hpp, _⟩ := hwi.sent p hps
    rcases ackPacket_ok hak with ⟨_, rfl⟩ | ⟨_, href⟩
    · exact hesc _
    · exact escOK_refund ha (he.nodup _) (hesc _) (he.covers _ _ _ _ hpp) (hpi p hps).1 (hsp ▸ href)
  case timeout p _ _ hto =>
    obtain ⟨hps, _, _, _⟩ := hg
    obtain ⟨_, _, hsp, _, hpp, _⟩ := hwi.sent p hps
    exact escOK_refund ha (he.nodup _) (hesc _) (he.covers _ _ _ _ hpp) (hpi p hps).1 (hsp ▸ timeoutPacket_ok hto)
  case bankSend f t dn n b hb =>
    obtain ⟨_, _, hbal⟩ := Bank.send_some hb
    exact escOK_congr (hesc _) rfl fun e x => by rw [hbal, moveBal_other (hpo.1 _ _).symm (hpo.2 _ _).symm]

theorem escInv_run {cfg : Config} (ha : Assm cfg) {ends : Nat → List Str} (he : EndsOK cfg ends) :
    ∀ (ops : List Op) (w : World), Inv cfg w → EscInv cfg ends w → LifecycleOK cfg w ops →
      (∀ op ∈ ops, PartiesOK cfg op) → EscInv cfg ends (run cfg w ops) :=
  fun ops w hi hesc hl hp => (run_invariant (P := fun w => Inv cfg w ∧ EscInv cfg ends w)
    (fun _ op h hg hpo => ⟨inv_step ha h.1 op hg hpo, escInv_step ha he h.1 h.2 op hg hpo⟩) ops w ⟨hi, hesc⟩ hl hp).2

theorem le_pendingSum {w : World} {sel : Packet → Bool} {p : Packet} (hp : p ∈ w.sent) (hs : sel p = true)
    (hpend : pending w p = true) : p.data.amount ≤ pendingSum w sel := by
  unfold pendingSum
  apply le_sum_of_mem (fun q => q.data.amount) p
  rw [List.mem_filter]
  exact ⟨hp, by simp [hs, hpend]⟩

theorem onRecvPacket_unwind_succeeds {cfg : Config} {c : Nat} {ch : Chain} {data : PacketData} {sp sc dp dc : Str} {r : Addr}
    (hv : validatePacketData data = none) (hre : ch.recvEnabled = true) (hr : cfg.decode data.receiver = some r)
    (hb : isBlockedAddr cfg c r = false)
    (hsdk : sdkValidDenom (ics20RecvCoinDenom cfg.hashHex sp sc dp dc data.denom) = true)
    (hp : (extract data.denom).hasPrefix sp sc = true)
    (hn : data.amount ≤ ch.bank.bal (cfg.escrowAddr dp dc) (ics20RecvCoinDenom cfg.hashHex sp sc dp dc data.denom))
    (hte : data.amount ≤ ch.totalEscrow (ics20RecvCoinDenom cfg.hashHex sp sc dp dc data.denom)) :
    ∃ ch', onRecvPacket cfg c ch data sp sc dp dc = .ok ch' := by
  obtain ⟨b', hb'⟩ := Bank.send_isSome (t := r) hn
  unfold onRecvPacket
  simp only [hv, hre, hr, hb, hsdk, hp, Bool.not_true, Bool.false_eq_true, if_false, if_true]
  unfold unescrowCoin
  simp only [hb']
  have : ¬ ch.totalEscrow (ics20RecvCoinDenom cfg.hashHex sp sc dp dc data.denom) < data.amount := by omega
  simp only [this, if_false]
  exact ⟨_, rfl⟩

theorem Bank.burn_isSome {b : Bank} {m : Addr} {d : Str} {n : Nat} (h1 : n ≤ b.bal m d) (h2 : n ≤ b.supply d) :
    ∃ b', b.burn m d n = some b' := by
  unfold Bank.burn
  have : ¬ (b.bal m d < n ∨ b.supply d < n) := by omega
  simp only [this, if_false]
  exact ⟨_, rfl⟩

theorem sendTransfer_burn_succeeds {cfg : Config} {c : Nat} {ch : Chain} {port chan : Str} {tok : Denom} {n : Nat} {s : Addr}
    (hse : ch.sendEnabled = true) (hbl : isBlockedAddr cfg c s = false)
    (hsdk : sdkValidDenom (tok.ibcDenom cfg.hashHex) = true) (hpre : tok.hasPrefix port chan = true)
    (hf : n ≤ ch.bank.bal s (tok.ibcDenom cfg.hashHex)) (hsup : n ≤ ch.bank.supply (tok.ibcDenom cfg.hashHex)) :
    ∃ ch', sendTransfer cfg c ch port chan tok n s = .ok ch' := by
  obtain ⟨b1, hb1⟩ := Bank.send_isSome (t := cfg.moduleAddr) hf
  obtain ⟨_, hs1, hbal1⟩ := Bank.send_some hb1
  have hm : n ≤ b1.bal cfg.moduleAddr (tok.ibcDenom cfg.hashHex) := by
    rw [hbal1]
    simp only [moveBal, if_true]
    split_ifs <;> omega
  obtain ⟨b2, hb2⟩ := Bank.burn_isSome hm (by rw [hs1]; exact hsup)
  unfold sendTransfer
  simp only [ics20SendCoinDenom, hse, hbl, hsdk, hpre, Bool.not_true, Bool.false_eq_true, if_false, if_true, hb1, hb2]
  exact ⟨_, rfl⟩

/-- a voucher recorded in the store is found by `TokenFromCoin` under its coin denomination
    (`ibc/` + hash of its path), given the store is keyed (`DenomsKeyed`) and the hash is printed as
    64 upper-case hex digits -/
theorem tokenFromCoin_of_stored {cfg : Config} {ch : Chain} {Y : Denom}
    (hk : (ch.denoms.map fun x => cfg.hashHex x.path).Nodup) (hmem : Y ∈ ch.denoms)
    (hfmt : validHexHash (cfg.hashHex Y.path) = true)
    (hup : (cfg.hashHex Y.path).map Char.toUpper = cfg.hashHex Y.path) :
    tokenFromCoin cfg ch ("ibc/".toList ++ cfg.hashHex Y.path) = .ok Y := by
  unfold tokenFromCoin
  have hs : stripPrefix "ibc/".toList ("ibc/".toList ++ cfg.hashHex Y.path) = some (cfg.hashHex Y.path) := by
    unfold stripPrefix
    rw [isPrefixOf_append_self]
    simp
  simp only [hs, hfmt, Bool.not_true, Bool.false_eq_true, if_false, hup, getDenom_of_mem hk Y hmem]

/-- **`MsgTransfer` accepts a voucher for the way home.**  On a chain holding voucher `Y` whose first hop
    is the channel `m.chan` it is sent over (v1), with `TokenFromCoin` resolving the coin to `Y`: if
    sending is enabled, the sender decodes and is not blocked, the amount is positive and covered, the
    sender / receiver strings are non-blank, and core IBC commits the packet, then `Transfer` succeeds,
    burns exactly that amount of the voucher and emits a packet carrying `Y`'s path. -/
theorem transfer_voucher_home_succeeds {cfg : Config} {c : Nat} {ch : Chain} {m : MsgTransfer} {seq : Nat} {Y : Denom}
    {s : Addr} {dc : Nat} {did : Str}
    (hse : ch.sendEnabled = true) (hs : cfg.decode m.sender = some s) (hbl : isBlockedAddr cfg c s = false)
    (hamt : m.amount ≠ unbounded) (hpos : m.amount ≠ 0)
    (htok : tokenFromCoin cfg ch m.denom = .ok Y) (hY : GoodDenom Y) (hYv : Y.validate = none)
    (hpre : Y.hasPrefix transferPort m.chan = true)
    (hnb1 : goBlank m.sender = false) (hnb2 : goBlank m.receiver = false)
    (hv1 : cfg.hasChannel c m.port m.chan = true) (hal : m.alias = false)
    (hpeer : cfg.peer c m.chan = some (dc, did))
    (hf : m.amount ≤ ch.bank.bal s (Y.ibcDenom cfg.hashHex)) (hsup : m.amount ≤ ch.bank.supply (Y.ibcDenom cfg.hashHex))
    (hsdk : sdkValidDenom (Y.ibcDenom cfg.hashHex) = true) :
    ∃ ch' p, transfer cfg c ch m none seq = .ok (ch', p) ∧ p.data.denom = Y.path ∧ p.data.amount = m.amount ∧
      p.dstChain = dc ∧ p.dstChan = did ∧
      ch'.bank.supply (Y.ibcDenom cfg.hashHex) + m.amount = ch.bank.supply (Y.ibcDenom cfg.hashHex) := by
  obtain ⟨ch', hst⟩ := sendTransfer_burn_succeeds (cfg := cfg) (c := c) (port := transferPort) (chan := m.chan) hse hbl hsdk hpre hf hsup
  have hexp : expandAmount ch s m = some m.amount := by simp [expandAmount, hamt]
  have hval : validatePacketData ⟨Y.path, m.amount, m.sender, m.receiver, m.memo⟩ = none := by
    simp [validatePacketData, hpos, hnb1, hnb2, show extract Y.path = Y from hY.stable, hYv]
  refine ⟨ch', ⟨c, transferPort, m.chan, dc, transferPort, did, seq, false, ⟨Y.path, m.amount, m.sender, m.receiver, m.memo⟩⟩, ?_, rfl, rfl, rfl, rfl, ?_⟩
  · unfold transfer
    simp only [hse, hs, hexp, htok, hY.1, hval, hv1, hal, hst, hpeer, Bool.not_true, Bool.false_eq_true, if_false,
      Bool.not_false, Bool.and_self, if_true]
  · obtain ⟨_, _, _, _, heff⟩ := sendTransfer_effect hst
    rcases heff with ⟨_, hsn, _, hsup', _⟩ | ⟨hpF, _⟩
    · rw [hsup']; simp only [if_true]; omega
    · rw [hpre] at hpF; cases hpF

end IbcVerif.Ics20
