/-
  Helper lemmas for the ClientRecoveryStore model (property C29): get / set / delete on `KV`, how
  `splitPrefix` and `getStore` route a key by its subject / substitute prefix, what a step on a subject
  key does, and that no step writes the substitute store.
-/
import IbcVerif.Model.WasmStore
namespace IbcVerif.WasmStore

theorem lookup_filter_ne {α β : Type} [BEq α] [LawfulBEq α] (l : List (α × β)) (k k' : α) :
    (l.filter (fun p => p.1 != k)).lookup k' = if k' == k then none else l.lookup k' := by
  induction l with
  | nil => simp
  | cons p l ih =>
    obtain ⟨a, b⟩ := p
    by_cases hak : a = k
    · subst hak
      rw [List.filter_cons_of_neg (by simp), ih, List.lookup_cons]
      cases h : k' == a <;> rfl
    · rw [List.filter_cons_of_pos (by simpa using hak), List.lookup_cons, List.lookup_cons, ih]
      cases h : k' == a
      · rfl
      · rw [eq_of_beq h, beq_false_of_ne hak]; rfl

theorem KV.get_set (m : KV) (k v k' : Bytes) :
    KV.get (KV.set m k v) k' = if k' = k then some v else KV.get m k' := by
  simp only [KV.get, KV.set, List.lookup_cons, lookup_filter_ne]
  cases h : k' == k
  · simp [ne_of_beq_false h]
  · simp [eq_of_beq h]

theorem KV.get_delete (m : KV) (k k' : Bytes) :
    KV.get (KV.delete m k) k' = if k' = k then none else KV.get m k' := by
  simp only [KV.get, KV.delete, lookup_filter_ne, beq_iff_eq]

theorem isPrefixOf_append (p k : Bytes) : p.isPrefixOf (p ++ k) = true := by
  rw [List.isPrefixOf_iff_prefix]; exact List.prefix_append p k

theorem eq_append_of_isPrefixOf {p k : Bytes} (h : p.isPrefixOf k = true) :
    k = p ++ k.drop p.length := by
  rw [List.isPrefixOf_iff_prefix, List.prefix_iff_eq_append] at h
  exact h.symm

theorem subject_not_prefix_of_substitute (k : Bytes) :
    subjectPrefix.isPrefixOf (substitutePrefix ++ k) = false :=
  rfl

theorem splitPrefix_subject (k : Bytes) : splitPrefix (subjectPrefix ++ k) = (subjectPrefix, k) := by
  simp [splitPrefix, isPrefixOf_append]

theorem splitPrefix_substitute (k : Bytes) :
    splitPrefix (substitutePrefix ++ k) = (substitutePrefix, k) := by
  simp [splitPrefix, isPrefixOf_append, subject_not_prefix_of_substitute]

theorem splitPrefix_none {k : Bytes} (h1 : subjectPrefix.isPrefixOf k = false)
    (h2 : substitutePrefix.isPrefixOf k = false) : splitPrefix k = ([], k) := by
  simp [splitPrefix, h1, h2]

theorem splitPrefix_append (k : Bytes) : (splitPrefix k).1 ++ (splitPrefix k).2 = k := by
  unfold splitPrefix
  cases h1 : subjectPrefix.isPrefixOf k with
  | true => exact (eq_append_of_isPrefixOf h1).symm
  | false =>
    cases h2 : substitutePrefix.isPrefixOf k with
    | true => exact (eq_append_of_isPrefixOf h2).symm
    | false => rfl

theorem getStore_eq_some {p : Bytes} {w : Which} (h : getStore p = some w) :
    p = subjectPrefix ∨ p = substitutePrefix := by
  unfold getStore at h
  by_cases h1 : p = subjectPrefix
  · exact .inl h1
  · by_cases h2 : p = substitutePrefix
    · exact .inr h2
    · simp [h1, h2] at h

theorem getStore_subject : getStore subjectPrefix = some .subject :=
  rfl

theorem getStore_substitute : getStore substitutePrefix = some .substitute :=
  rfl

theorem getStore_nil : getStore [] = none :=
  rfl

theorem nil_ne_substitute : (([] : Bytes) != substitutePrefix) = true :=
  rfl

theorem subject_prefix_cases (k : Bytes) :
    (∃ r, k = subjectPrefix ++ r) ∨
    (subjectPrefix.isPrefixOf k = false ∧ ∀ k', k ≠ subjectPrefix ++ k') := by
  cases h : subjectPrefix.isPrefixOf k with
  | true => exact .inl ⟨_, eq_append_of_isPrefixOf h⟩
  | false => exact .inr ⟨rfl, fun k' e => by rw [e, isPrefixOf_append] at h; cases h⟩

theorem step_set_subject (s : RS) (r : Bytes) (v : Option Bytes) :
    step s (.set (subjectPrefix ++ r) v) =
      if r.isEmpty then (s, .panic)
      else match v with
        | none => (s, .panic)
        | some v => ({ s with subject := s.subject.set r v }, .unit) := by
  simp only [step, splitPrefix_subject, bne_self_eq_false, Bool.false_eq_true, if_false]
  rfl

theorem step_delete_subject (s : RS) (r : Bytes) :
    step s (.delete (subjectPrefix ++ r)) = ({ s with subject := s.subject.delete r }, .unit) := by
  simp only [step, splitPrefix_subject, bne_self_eq_false, Bool.false_eq_true, if_false]

theorem step_substitute (s : RS) (op : Op) : (step s op).1.substitute = s.substitute := by
  cases op <;> simp only [step] <;> (repeat' split) <;> rfl

end IbcVerif.WasmStore
