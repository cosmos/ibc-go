/-
  Reading an `FMap` after a write or a delete: the equations `get_set`, `get_del`, and what they say about the
  entries present before and after.
-/
import IbcVerif.Model.ChainMap
namespace IbcVerif.Chain

variable {K V : Type} [DecidableEq K]

theorem alookup_aerase (l : List (K × V)) (k k' : K) :
    alookup (aerase l k) k' = if k' = k then none else alookup l k' := by
  induction l with
  | nil => simp [aerase, alookup]
  | cons e l ih =>
    obtain ⟨a, v⟩ := e
    by_cases h3 : k' = k
    · subst h3; by_cases h1 : a = k' <;> simp_all [aerase, alookup]
    · by_cases h1 : a = k
      · subst h1; simp [aerase, alookup, ih, h3, Ne.symm h3]
      · simp [aerase, alookup, ih, h3, h1]

theorem none_some_elim {α : Type} {o : Option α} {a : α} {P : Prop} (h0 : o = none) (h1 : o = some a) : P :=
  absurd (h1.symm.trans h0) (Option.some_ne_none a)

namespace FMap

@[simp] theorem get_empty (k : K) : (empty : FMap K V).get k = none := rfl

theorem get_set (m : FMap K V) (k k' : K) (v : V) :
    (m.set k v).get k' = if k' = k then some v else m.get k' := by
  show (if k = k' then some v else alookup (aerase m.entries k) k') = _
  rw [alookup_aerase]
  by_cases h : k' = k <;> simp [h, Ne.symm, get]

theorem get_del (m : FMap K V) (k k' : K) :
    (m.del k).get k' = if k' = k then none else m.get k' :=
  alookup_aerase m.entries k k'

@[simp] theorem get_set_self (m : FMap K V) (k : K) (v : V) : (m.set k v).get k = some v := by
  simp [get_set]

theorem get_set_ne (m : FMap K V) {k k' : K} (v : V) (h : k' ≠ k) : (m.set k v).get k' = m.get k' := by
  simp [get_set, h]

@[simp] theorem get_del_self (m : FMap K V) (k : K) : (m.del k).get k = none := by
  simp [get_del]

theorem get_del_ne (m : FMap K V) {k k' : K} (h : k' ≠ k) : (m.del k).get k' = m.get k' := by
  simp [get_del, h]

theorem get_set_self_ne_none {m : FMap K V} {k : K} {v : V} : (m.set k v).get k ≠ none :=
  get_set_self m k v ▸ Option.some_ne_none v

theorem get_set_ne_none {m : FMap K V} {k k' : K} {v : V} (h : m.get k' ≠ none) : (m.set k v).get k' ≠ none := by
  rw [get_set]; split
  · exact Option.some_ne_none v
  · exact h

theorem get_set_or {m : FMap K V} {k k' : K} {a v : V} (h : m.get k' = some a) :
    k' = k ∨ (m.set k v).get k' = some a :=
  (Decidable.em (k' = k)).imp_right fun he => (get_set_ne _ _ he).trans h

theorem get_set_of_fresh {m : FMap K V} {k k' : K} {a v : V} (hk : m.get k = none) (h : m.get k' = some a) :
    (m.set k v).get k' = some a := by
  rw [get_set_ne _ _ fun (e : k' = k) => none_some_elim hk (e ▸ h)]; exact h

theorem key_eq_of_get_set {m : FMap K V} {k k' : K} {v : V} (h0 : m.get k' = none) (h1 : (m.set k v).get k' ≠ none) :
    k' = k :=
  Decidable.byContradiction fun e => h1 ((get_set_ne _ _ e).trans h0)

theorem eq_of_get_set {m : FMap K V} {k k' : K} {v a : V} (h0 : m.get k' = none) (h1 : (m.set k v).get k' = some a) :
    k' = k ∧ a = v := by
  obtain rfl := key_eq_of_get_set h0 (h1 ▸ Option.some_ne_none a)
  exact ⟨rfl, Option.some.inj (h1.symm.trans (get_set_self ..))⟩

theorem get_set_eq_none {m : FMap K V} {k k' : K} {a v : V} (hk : m.get k = some a) (h0 : m.get k' = none) :
    (m.set k v).get k' = none := by
  rw [get_set_ne _ _ fun (e : k' = k) => none_some_elim (e ▸ h0) hk]; exact h0

theorem get_ne_none_of_del {m : FMap K V} {k k' : K} (h : (m.del k).get k' ≠ none) : m.get k' ≠ none := by
  rw [get_del] at h; split at h
  · exact absurd rfl h
  · exact h

theorem has_iff (m : FMap K V) (k : K) : m.has k = true ↔ m.get k ≠ none := by
  unfold has; cases m.get k <;> simp

theorem has_false_iff (m : FMap K V) (k : K) : m.has k = false ↔ m.get k = none := by
  unfold has; cases m.get k <;> simp

end FMap
end IbcVerif.Chain
