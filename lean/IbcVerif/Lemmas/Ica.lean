/-
  Lemmas for the ICS-27 model (C37): characterisation of `authenticateTx` and of the message loop.
-/
import IbcVerif.Model.Ica
import IbcVerif.Lemmas.Except
namespace IbcVerif.Ica

variable {σ : Type}

/-- a message the host may execute for the account `a`: type allow-listed, every signer is `a` -/
def Authorized (allow : List String) (a : String) (m : Msg σ) : Prop :=
  containsMsgType allow m.typeURL = true ∧ ∀ s ∈ m.signers, s = a

/-- every handler in turn succeeds, threading the state (ValidateBasic passes, the router knows the type) -/
def HandlersOk : List (Msg σ) → σ → Prop
  | [], _ => True
  | m :: t, s => m.vbOk = true ∧ m.routed = true ∧ ∃ s', m.handler s = some s' ∧ HandlersOk t s'

theorem authenticate_go_none (allow : List String) (a : String) (msgs : List (Msg σ)) :
    authenticateTx.go allow a msgs = none ↔ ∀ m ∈ msgs, Authorized allow a m := by
  induction msgs with
  | nil => simp [authenticateTx.go]
  | cons m t ih =>
    simp only [authenticateTx.go, some_else_eq_none, ih, List.mem_cons, forall_eq_or_imp, Authorized,
      Bool.not_eq_true', Bool.not_eq_false, Bool.not_eq_true, List.any_eq_false, bne_iff_ne, ne_eq,
      Decidable.not_not, and_assoc]

theorem runMsgs_ok_iff (msgs : List (Msg σ)) (s : σ) :
    (∃ s', runMsgs msgs s = .ok s') ↔ HandlersOk msgs s := by
  induction msgs generalizing s with
  | nil => simp [runMsgs, HandlersOk]
  | cons m t ih =>
    simp only [runMsgs, HandlersOk, error_else_eq_ok, ← ih, Bool.not_eq_true', Bool.not_eq_false,
      exists_and_left]
    cases m.handler s <;> simp

theorem authenticateTx_none (icaAddr : Option String) (allow : List String) (msgs : List (Msg σ)) :
    authenticateTx icaAddr allow msgs = none ↔ ∃ a, icaAddr = some a ∧ ∀ m ∈ msgs, Authorized allow a m := by
  cases icaAddr with
  | none => simp [authenticateTx]
  | some a => simpa [authenticateTx] using authenticate_go_none allow a msgs

theorem executeTx_ok_iff (chanFound : Bool) (icaAddr : Option String) (allow : List String) (msgs : List (Msg σ))
    (s : σ) :
    (executeTx chanFound icaAddr allow msgs s).2 = none ↔
      chanFound = true ∧ authenticateTx icaAddr allow msgs = none ∧ ∃ s', runMsgs msgs s = .ok s' := by
  unfold executeTx
  cases chanFound
  · simp
  · cases authenticateTx icaAddr allow msgs
    · cases runMsgs msgs s <;> simp
    · simp

end IbcVerif.Ica
