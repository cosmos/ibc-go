/-
  The packet-lifecycle hypotheses under which the ICS-20 history theorems are stated.

  The ICS-20 model leaves core IBC abstract: an `Op` is an application callback.  What core IBC
  guarantees about the order and multiplicity of callbacks is proved by other properties over the
  core model; here it is a *named hypothesis on the history*, `LifecycleOK`, stated with the ghost
  logs of `World` (every clause names the property that provides it):

    * C08  a sent packet gets a fresh sequence on its (chain, channel/client id);
    * C05  a receive callback runs only for a packet the counterparty really sent, on the chain and
           channel end it is addressed to (`p ∈ sent`; the destination is the source end's peer);
    * C01  at most one receive callback per packet;
    * C04  a packet that timed out is never received, and a received packet never times out;
    * C06  an acknowledgement callback carries the acknowledgement the receiver wrote for that packet
           (success ↦ result ack; failure ↦ v1 error ack / v2 sentinel);
    * C03  at most one of acknowledgement / timeout / timeout-on-close callback completes per packet;
    * C14/C03 (the `onClose = true` instance of the `.timeout` arm of `Guard`): a packet may
           complete by `MsgTimeoutOnClose` — the counterparty channel end is proven CLOSED — only if it
           was never received there (unordered: receipt absent; ordered: next-sequence-receive not past
           it), and not after another terminal outcome.  The ICS-20 callback is the same
           `OnTimeoutPacket`.
-/
import IbcVerif.Lemmas.Ics20Step
namespace IbcVerif.Ics20
open IbcVerif IbcVerif.Xfer

/-- the acknowledgement core IBC delivers for a receive outcome -/
def ackFor (p : Packet) (success : Bool) : Ack :=
  if success then .result else if p.v2 then .sentinel else .error

theorem ackFor_result {p : Packet} {b : Bool} : ackFor p b = .result ↔ b = true := by
  cases b <;> cases hv : p.v2 <;> simp [ackFor, hv]

/-- what core IBC guarantees about one callback, given the callbacks so far -/
def Guard (w : World) : Op → Prop
  | .transfer c _ _ m _ seq =>
      ∀ p ∈ w.sent, ¬ (p.srcChain = c ∧ p.srcChan = m.chan ∧ p.seq = seq)                    -- C08
  | .sendV2 c _ client _ _ seq =>
      ∀ p ∈ w.sent, ¬ (p.srcChain = c ∧ p.srcChan = client ∧ p.seq = seq)                    -- C08
  | .recv p =>
      p ∈ w.sent ∧                                                                            -- C05
      (∀ b, (p, b) ∉ w.recvd) ∧                                                               -- C01
      p ∉ w.timedOut                                                                          -- C04
  | .ack p a =>
      p ∈ w.sent ∧ (∃ b, (p, b) ∈ w.recvd ∧ a = ackFor p b) ∧                                -- C06
      p ∉ w.acked ∧ p ∉ w.timedOut                                                           -- C03
  | .timeout p onClose =>
      p ∈ w.sent ∧ (∀ b, (p, b) ∉ w.recvd) ∧                                                  -- C04 / C14
      p ∉ w.acked ∧ p ∉ w.timedOut ∧                                                         -- C03
      (onClose = true → p.v2 = false)                       -- `MsgTimeoutOnClose` exists for v1 channels only
  | .setParams _ _ _ => True
  | .bankSend _ _ _ _ _ => True

/-- a history all of whose callbacks respect the packet lifecycle -/
def LifecycleOK (cfg : Config) : World → List Op → Prop
  | _, [] => True
  | w, op :: ops => Guard w op ∧ LifecycleOK cfg (step cfg w op).1 ops

/-- Induction over lifecycle-respecting histories: what every step keeps whose callback core IBC allows
    (and whose operation satisfies `Q`) holds at the end of the history. -/
theorem run_invariant {cfg : Config} {P : World → Prop} {Q : Op → Prop}
    (hstep : ∀ w op, P w → Guard w op → Q op → P (step cfg w op).1) :
    ∀ (ops : List Op) (w : World), P w → LifecycleOK cfg w ops → (∀ op ∈ ops, Q op) → P (run cfg w ops) := by
  intro ops
  induction ops with
  | nil => intro w h _ _; exact h
  | cons op ops ih =>
    intro w h hl hq
    exact ih _ (hstep w op h hl.1 (hq op List.mem_cons_self)) hl.2 fun o ho => hq o (List.mem_cons_of_mem _ ho)

theorem step_resolved_mono (cfg : Config) (w : World) (op : Op) {p : Packet} (h : p ∈ w.acked ∨ p ∈ w.timedOut) :
    p ∈ (step cfg w op).1.acked ∨ p ∈ (step cfg w op).1.timedOut := by
  have hs := stepped cfg w op
  generalize (step cfg w op).1 = w', (step cfg w op).2 = r at hs ⊢
  cases hs
  case ack => exact h.imp_left (List.mem_cons_of_mem _)
  case timeout => exact h.imp_right (List.mem_cons_of_mem _)
  all_goals exact h

/-- number of completed refund callbacks (timeout, or acknowledgement other than a result ack) for
    packet `p` along a history -/
def refundCount (cfg : Config) (p : Packet) : World → List Op → Nat
  | _, [] => 0
  | w, op :: ops =>
    (match op with
     | .timeout q _ => if q = p ∧ (step cfg w op).2 = .ok then 1 else 0
     | .ack q a => if q = p ∧ a ≠ .result ∧ (step cfg w op).2 = .ok then 1 else 0
     | _ => 0) + refundCount cfg p (step cfg w op).1 ops

theorem refundCount_zero_of_resolved (cfg : Config) (p : Packet) :
    ∀ (ops : List Op) (w : World), LifecycleOK cfg w ops → (p ∈ w.acked ∨ p ∈ w.timedOut) →
      refundCount cfg p w ops = 0 := by
  intro ops
  induction ops with
  | nil => intro w _ _; rfl
  | cons op ops ih =>
    intro w hl hres
    obtain ⟨hg, hl'⟩ := hl
    simp only [refundCount, ih _ hl' (step_resolved_mono cfg w op hres), Nat.add_zero]
    -- the guard of a refund callback for `p` says `p` is not resolved yet
    cases op
    case timeout q oc => exact if_neg (by rintro ⟨rfl, _⟩; exact hres.elim hg.2.2.1 hg.2.2.2.1)
    case ack q a => exact if_neg (by rintro ⟨rfl, _⟩; exact hres.elim hg.2.2.1 hg.2.2.2)
    all_goals rfl

/-- **Refund at most once**: along every lifecycle-respecting history, at most one refund callback
    completes for a packet. -/
theorem refundCount_le_one (cfg : Config) (p : Packet) :
    ∀ (ops : List Op) (w : World), LifecycleOK cfg w ops → refundCount cfg p w ops ≤ 1 := by
  intro ops
  induction ops with
  | nil => intro w _; simp [refundCount]
  | cons op ops ih =>
    intro w hl
    obtain ⟨hg, hl'⟩ := hl
    have hrest := ih _ hl'
    simp only [refundCount]
    cases op with
    | timeout q oc =>
      simp only
      split_ifs with hq
      · obtain ⟨rfl, hok⟩ := hq
        rcases step_timeout_cases cfg w q oc with ⟨ch', _, hstep⟩ | ⟨_, hne⟩
        · have : q ∈ (step cfg w (.timeout q oc)).1.timedOut := by rw [hstep]; exact List.mem_cons_self
          rw [refundCount_zero_of_resolved cfg q ops _ hl' (Or.inr this)]; omega
        · exact absurd hok hne
      · omega
    | ack q a =>
      simp only
      split_ifs with hq
      · obtain ⟨rfl, _, hok⟩ := hq
        rcases step_ack_cases cfg w q a with ⟨ch', _, hstep⟩ | ⟨_, hne⟩
        · have : q ∈ (step cfg w (.ack q a)).1.acked := by rw [hstep]; exact List.mem_cons_self
          rw [refundCount_zero_of_resolved cfg q ops _ hl' (Or.inl this)]; omega
        · exact absurd hok hne
      · omega
    | _ => simpa using hrest

end IbcVerif.Ics20
