/-
  Lemmas on Model/Merkle.lean: when `verifyMembership` / `verifyNonMembership` accept, in terms of `validateArgs` and
  the chained roots; and the Go-slice memory model (`writeAt`, `goAppend`) behind `buildMerklePath`.
  `eq_nil_or_snoc` is a list fact.
-/
import IbcVerif.Model.Merkle
import IbcVerif.Lemmas.Except
namespace IbcVerif.Merkle
open IbcVerif

section
variable {VE : Nat → Bytes → Bytes → Bytes → Bool} {VN : Bytes → Bytes → Bool} {keyAt : Nat → Option Bytes}
  {proofsNil : Bool} {levels rest : List Level} {l : Level} {nSpecs pathLen n i : Nat} {root value r : Bytes}

theorem validateArgs_ok {specNils : List Bool} :
    validateArgs proofsNil levels nSpecs specNils pathLen root = .ok ↔
      proofsNil = false ∧ root ≠ [] ∧ nSpecs = levels.length ∧ pathLen = nSpecs ∧ specNils.any id = false := by
  simp only [validateArgs, ite_eq_iff_of_ne, ne_eq, reduceCtorEq, not_false_eq_true, Bool.not_eq_true, List.isEmpty_iff,
    Decidable.not_not, and_true]

theorem chain_cons_some :
    chain VE keyAt n (l :: rest) i value = some r ↔
      ∃ sub key, l.croot = some sub ∧ keyAt (n - 1 - i) = some key ∧ l.kind = .exist ∧ VE i sub key value = true ∧
        chain VE keyAt n rest (i + 1) sub = some r := by
  simp only [chain]
  cases l.croot <;> cases keyAt (n - 1 - i) <;> simp

/-- every level of a chain that verifies passed the `GetExist() != nil` test -/
theorem chain_kinds : ∀ {levels : List Level} {i : Nat} {value : Bytes}, chain VE keyAt n levels i value = some r →
    ∀ l ∈ levels, l.kind = .exist
  | [], _, _, _, _, hl => nomatch hl
  | _ :: _, _, _, h, l, hl => by
    obtain ⟨_, _, _, _, hx, _, h'⟩ := chain_cons_some.mp h
    rcases List.mem_cons.mp hl with rfl | hl'
    · exact hx
    · exact chain_kinds h' l hl'

theorem verifyMembership_ok :
    verifyMembership VE keyAt proofsNil levels nSpecs pathLen root value = .ok ↔
      validateArgs proofsNil levels nSpecs (levels.map (·.specNil)) pathLen root = .ok ∧ value ≠ [] ∧
        chain VE keyAt pathLen levels 0 value = some root := by
  unfold verifyMembership
  cases validateArgs proofsNil levels nSpecs (levels.map (·.specNil)) pathLen root <;>
    cases chain VE keyAt pathLen levels 0 value <;> simp [ite_eq_iff_of_ne]

theorem verifyNonMembership_nil : verifyNonMembership VE VN keyAt proofsNil [] nSpecs pathLen root ≠ .ok := by
  unfold verifyNonMembership
  cases validateArgs proofsNil [] nSpecs (([] : List Level).map (·.specNil)) pathLen root <;> simp

theorem verifyNonMembership_cons_ok :
    verifyNonMembership VE VN keyAt proofsNil (l :: rest) nSpecs pathLen root = .ok ↔
      validateArgs proofsNil (l :: rest) nSpecs ((l :: rest).map (·.specNil)) pathLen root = .ok ∧
        ∃ sub key, l.croot = some sub ∧ keyAt (pathLen - 1) = some key ∧
          l.kind = .nonexist ∧ VN sub key = true ∧ chain VE keyAt pathLen rest 1 sub = some root := by
  unfold verifyNonMembership
  cases validateArgs proofsNil (l :: rest) nSpecs ((l :: rest).map (·.specNil)) pathLen root <;>
    simp only [reduceCtorEq, false_and, true_and]
  cases l.croot <;> cases keyAt (pathLen - 1) <;>
    simp only [reduceCtorEq, false_and, exists_false, Option.some.injEq, exists_and_left, exists_eq_left', ne_eq,
      ite_eq_iff_of_ne, not_false_eq_true, Decidable.not_not, Bool.not_eq_true', Bool.not_eq_false]
  cases chain VE keyAt pathLen rest 1 _ <;> simp

end

theorem take_writeAt (l data : Bytes) (pos n : Nat) (hb : pos ≤ l.length) (h : n ≤ pos) :
    (writeAt l pos data).take n = l.take n := by
  rw [writeAt, List.append_assoc, List.take_append_of_le_length (by rw [List.length_take]; omega), List.take_take,
    Nat.min_eq_left h]

theorem drop_writeAt (l data : Bytes) (pos n : Nat) (hb : pos ≤ l.length) (h : pos + data.length ≤ n) :
    (writeAt l pos data).drop n = l.drop n := by
  have e : (l.take pos ++ data).length = pos + data.length := by rw [List.length_append, List.length_take]; omega
  rw [writeAt, List.drop_append, e, List.drop_of_length_le (by omega), List.nil_append, List.drop_drop]
  congr 1; omega

theorem view_writeAt_disjoint (l data : Bytes) (pos off len : Nat) (hb : pos ≤ l.length)
    (hd : off + len ≤ pos ∨ pos + data.length ≤ off) :
    ((writeAt l pos data).drop off).take len = (l.drop off).take len := by
  rcases hd with h | h
  · rw [List.take_drop, List.take_drop, take_writeAt _ _ _ _ hb h]
  · rw [drop_writeAt _ _ _ _ hb h]

theorem length_writeAt (l data : Bytes) (pos : Nat) (h : pos + data.length ≤ l.length) :
    (writeAt l pos data).length = l.length := by
  unfold writeAt
  simp only [List.length_append, List.length_take, List.length_drop]
  omega

theorem view_writeAt_extended (l data : Bytes) (off len : Nat) (h : off + len + data.length ≤ l.length) :
    ((writeAt l (off + len) data).drop off).take (len + data.length) = (l.drop off).take len ++ data := by
  have h1 : (l.take off).length = off := by rw [List.length_take]; omega
  have h2 : ((l.drop off).take len ++ data).length = len + data.length := by
    simp only [List.length_append, List.length_take, List.length_drop]; omega
  rw [writeAt, List.take_add (l := l), List.append_assoc, List.append_assoc, List.drop_left' h1, ← List.append_assoc,
    List.take_left' h2]

theorem getD_set_self (h : Heap) (a : Nat) (x : Bytes) (ha : a < h.length) : (h.set a x).getD a [] = x := by
  simp [List.getD_eq_getElem?_getD, ha]

theorem getD_set_ne (h : Heap) (a b : Nat) (x : Bytes) (hab : a ≠ b) : (h.set a x).getD b [] = h.getD b [] := by
  simp [List.getD_eq_getElem?_getD, hab]

theorem view_goAppend_self (h : Heap) (s : Slice) (data : Bytes) (ha : s.arr < h.length)
    (hc : s.off + s.cap ≤ (h.getD s.arr []).length) :
    (goAppend h s data).2.view (goAppend h s data).1 = s.view h ++ data := by
  unfold goAppend
  split
  · simp only [Slice.view, getD_set_self h _ _ ha]
    exact view_writeAt_extended _ _ _ _ (by omega)
  · simp only [Slice.view, List.getD_eq_getElem?_getD, List.getElem?_concat_length, Option.getD_some, List.drop_zero]
    apply List.take_of_length_le
    simp only [List.length_append, List.length_take]
    omega

theorem eq_nil_or_snoc {α : Type} (l : List α) : l = [] ∨ ∃ init last, l = init ++ [last] := by
  simpa only [List.concat_eq_append] using List.eq_nil_or_concat l

theorem buildMerklePath_concat (h : Heap) (init : List Slice) (last : Slice) (path : Bytes) :
    buildMerklePath h (init ++ [last]) path = some ((goAppend h last path).1, init ++ [(goAppend h last path).2]) := by
  simp [buildMerklePath]

end IbcVerif.Merkle
