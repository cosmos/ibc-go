/-
  Third layer: identifiers generated by the chain (channels, connections, clients) are fresh.
-/
import IbcVerif.Lemmas.ChainInv
namespace IbcVerif.Chain
open FMap

theorem fmtConn_ne_localhost (n : Nat) : fmtConn n ≠ "connection-localhost" := by
  intro h
  have h1 := congrArg String.toList h
  unfold fmtConn at h1
  rw [String.toList_ofList] at h1
  have h2 : "connection-localhost".toList = "connection-".toList ++ "localhost".toList := by decide +kernel
  rw [h2] at h1
  have h3 := List.append_cancel_left h1
  have := dec_all_digits n
  rw [h3] at this
  revert this; decide +kernel

def Event.isChanGen (c : Id) : Event → Bool
  | .hs k _ c' => (k = "init" ∨ k = "try") ∧ c' = c
  | _ => false

def Event.isConnGen (c : Id) : Event → Bool
  | .genConn c' => c' = c
  | _ => false

def Event.isClientGen (c : Id) : Event → Bool
  | .genClient c' => c' = c
  | _ => false

theorem Event.isChanGen_iff {c : Id} {e : Event} :
    e.isChanGen c = true ↔ ∃ k p, (k = "init" ∨ k = "try") ∧ e = .hs k p c := by
  cases e <;> simp [Event.isChanGen]
  exact or_and_right

theorem Event.isConnGen_iff {c : Id} {e : Event} : e.isConnGen c = true ↔ e = .genConn c := by
  cases e <;> simp [Event.isConnGen]

theorem Event.isClientGen_iff {c : Id} {e : Event} : e.isClientGen c = true ↔ e = .genClient c := by
  cases e <;> simp [Event.isClientGen]

structure Inv3 (s : ChainState) : Prop where
  connId : ∀ c e, s.conn.get c = some e → c = "connection-localhost" ∨ ∃ m, m < s.nextConnSeq ∧ c = fmtConn m
  chanGen : ∀ c e, e ∈ s.log → e.isChanGen c = true → ∃ m, m < s.nextChanSeq ∧ c = fmtChan m
  chanGenCount : ∀ c, (s.log.filter (Event.isChanGen c)).length ≤ 1
  connGen : ∀ c e, e ∈ s.log → e.isConnGen c = true → ∃ m, m < s.nextConnSeq ∧ c = fmtConn m
  connGenCount : ∀ c, (s.log.filter (Event.isConnGen c)).length ≤ 1
  clientGen : ∀ c e, e ∈ s.log → e.isClientGen c = true → ∃ t m, m < s.nextClientSeq ∧ c = fmtClient t m
  clientGenCount : ∀ c, (s.log.filter (Event.isClientGen c)).length ≤ 1

theorem Inv3.init : Inv3 Chain.init := by
  constructor <;> intros <;> simp_all [Chain.init, FMap.get_set, FMap.get_empty]

theorem Inv3.step {s s' : ChainState} (h3 : Inv3 s) (ht : Tr s s') : Inv3 s' := by
  constructor
  · intro c e' h'
    cases hs : s.conn.get c with
    | none =>
      obtain ⟨hc, hn, _⟩ := ht.connNew c e' hs h'
      exact .inr ⟨s.nextConnSeq, by omega, hc⟩
    | some e =>
      rcases h3.connId c e hs with h | ⟨m, hm, he⟩
      · exact .inl h
      · exact .inr ⟨m, Nat.lt_of_lt_of_le hm ht.nConn, he⟩
  · intro c e hx hg
    rcases log_cases ht hx with hold | ⟨_, hev⟩
    · obtain ⟨m, hm, he⟩ := h3.chanGen c e hold hg
      exact ⟨m, Nat.lt_of_lt_of_le hm ht.nChan, he⟩
    · obtain ⟨k, p, hk, rfl⟩ := Event.isChanGen_iff.mp hg
      obtain ⟨hc, hn⟩ := hev hk
      exact ⟨s.nextChanSeq, by omega, hc⟩
  · intro c
    exact filter_log_le_one ht (h3.chanGenCount c) fun e x hev he hx hfx => by
      obtain ⟨m, hm, hc⟩ := h3.chanGen c x hx hfx
      obtain ⟨k, p, hk, rfl⟩ := Event.isChanGen_iff.mp he
      obtain ⟨hc', _⟩ := hev hk
      rw [hc] at hc'; have := fmtChan_inj hc'; omega
  · intro c e hx hg
    rcases log_cases ht hx with hold | ⟨_, hev⟩
    · obtain ⟨m, hm, he⟩ := h3.connGen c e hold hg
      exact ⟨m, Nat.lt_of_lt_of_le hm ht.nConn, he⟩
    · cases Event.isConnGen_iff.mp hg
      exact ⟨s.nextConnSeq, by have := hev.2; omega, hev.1⟩
  · intro c
    exact filter_log_le_one ht (h3.connGenCount c) fun e x hev he hx hfx => by
      obtain ⟨m, hm, hc⟩ := h3.connGen c x hx hfx
      cases Event.isConnGen_iff.mp he
      have hc' := hev.1
      rw [hc] at hc'; have := fmtConn_inj hc'; omega
  · intro c e hx hg
    rcases log_cases ht hx with hold | ⟨_, hev⟩
    · obtain ⟨t, m, hm, he⟩ := h3.clientGen c e hold hg
      exact ⟨t, m, Nat.lt_of_lt_of_le hm ht.nClient, he⟩
    · cases Event.isClientGen_iff.mp hg
      obtain ⟨⟨t, ht'⟩, hn⟩ := hev
      exact ⟨t, s.nextClientSeq, by omega, ht'⟩
  · intro c
    exact filter_log_le_one ht (h3.clientGenCount c) fun e x hev he hx hfx => by
      obtain ⟨t, m, hm, hc⟩ := h3.clientGen c x hx hfx
      cases Event.isClientGen_iff.mp he
      obtain ⟨⟨t', ht'⟩, _⟩ := hev
      rw [hc] at ht'; have := fmtClient_seq_inj ht'; omega

theorem inv3_run_init (ops : List Op) : Inv3 (Chain.run Chain.init ops) :=
  run_preserves (P := Inv3) (fun _ _ ht h => h.step ht) _ ops Inv3.init

/-- an existing connection end is not stored under the identifier the next handshake generates -/
theorem conn_after {s s' : ChainState} (h3 : Inv3 s) (ht : Tr s s') {c : Id} {e : ConnEnd} (hc : s.conn.get c = some e) :
    ∃ e', s'.conn.get c = some e' ∧ ConnStep e e' := by
  rcases ht.connOld c e hc with h | h
  · rcases h3.connId c e hc with hl | ⟨m, hm, he⟩
    · exact absurd (hl ▸ h).symm (fmtConn_ne_localhost _)
    · rw [h] at he; have := fmtConn_inj he; omega
  · exact h

theorem conn_open_after {s s' : ChainState} (h3 : Inv3 s) (ht : Tr s s') {c : Id} {e : ConnEnd}
    (hc : s.conn.get c = some e) (ho : e.state = .opened) : s'.conn.get c = some e := by
  obtain ⟨e', h1, h2⟩ := conn_after h3 ht hc
  rw [h1, h2.of_opened ho]

theorem conn_nonInit_after {s s' : ChainState} (h3 : Inv3 s) (ht : Tr s s') {c : Id} {f : ConnEnd}
    (hc : s.conn.get c = some f) (hn : f.state ≠ .init) :
    ∃ f', s'.conn.get c = some f' ∧ f'.state ≠ .init ∧ f'.client = f.client ∧ f'.cpClient = f.cpClient ∧
      f'.cpConn = f.cpConn ∧ f'.delay = f.delay ∧ f'.versions = f.versions := by
  obtain ⟨f', h1, h2⟩ := conn_after h3 ht hc
  refine ⟨f', h1, ?_⟩
  rcases h2 with h | ⟨h, _⟩ | ⟨_, h⟩
  · subst h; exact ⟨hn, rfl, rfl, rfl, rfl, rfl⟩
  · exact absurd h hn
  · subst h; exact ⟨by simp, rfl, rfl, rfl, rfl, rfl⟩

theorem chan_nonInit_after {s s' : ChainState} (hi : Inv s) (ht : Tr s s') {p c : Id} {b : Channel}
    (hc : s.chan.get (p, c) = some b) (hn : b.state ≠ .init) :
    ∃ b', s'.chan.get (p, c) = some b' ∧ b'.state ≠ .init ∧ b'.ordering = b.ordering ∧ b'.cpPort = b.cpPort ∧
      b'.cpChan = b.cpChan ∧ b'.version = b.version ∧ b'.hops = b.hops := by
  rcases ht.chanOld p c b hc with h | ⟨b', h1, h2, h3, h4, htr, hv⟩
  · exact absurd h (chan_fresh hi hc)
  · have hsame : b'.version = b.version ∧ b'.cpChan = b.cpChan := by
      by_cases hx : b'.version ≠ b.version ∨ b'.cpChan ≠ b.cpChan
      · exact absurd (hv hx).1 hn
      · simp only [not_or, ne_eq, Decidable.not_not] at hx; exact hx
    refine ⟨b', h1, ?_, h2, h3, hsame.2, hsame.1, h4⟩
    rcases htr with h | ⟨h, _⟩ | ⟨_, h⟩ | ⟨_, h⟩
    · rw [← h]; exact hn
    · exact absurd h hn
    · rw [h]; simp
    · rw [h]; simp

end IbcVerif.Chain
