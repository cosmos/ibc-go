/-
  Model/Proto.lean: the varint readers (`varint` strict = `protowire.ConsumeVarint`, non-strict = the loop of the
  generated `Unmarshal`) read back what `encVarint` wrote.
-/
import IbcVerif.Model.Proto
import IbcVerif.Lemmas.Bytes
namespace IbcVerif.Proto
open IbcVerif

theorem encVarint_lt (n : Nat) (h : n < 128) : encVarint n = [UInt8.ofNat n] := by
  rw [encVarint]; simp [h]

theorem encVarint_ge (n : Nat) (h : ¬ n < 128) : encVarint n = UInt8.ofNat (n % 128 + 128) :: encVarint (n / 128) := by
  rw [encVarint]; simp [h]

theorem encVarint_length_pos (n : Nat) : 0 < (encVarint n).length := by
  by_cases h : n < 128
  · rw [encVarint_lt n h]; simp
  · rw [encVarint_ge n h]; simp

/-- reading the encoding of `n` with the accumulator at bit `shift` adds `n * 2 ^ shift`.  `varint` starts the reader
    with fuel 11 at shift 0 (the ten bytes a 64-bit varint can have, and one round to spare); `77 ≤ shift + 7 * fuel`
    (77 = 7 · 11) holds there and is kept by every round (`shift + 7`, `fuel - 1`), so the fuel never runs out before
    `shift` reaches 64. -/
theorem varintAux_enc (strict : Bool) (d : Bytes) : ∀ (n fuel shift i acc : Nat),
    HasAt d i (encVarint n) → shift < 64 → n * 2 ^ shift < 2 ^ 64 → 77 ≤ shift + 7 * fuel →
    varintAux strict fuel shift d i acc = .ok (acc + n * 2 ^ shift, i + (encVarint n).length) := by
  intro n
  induction n using Nat.strongRecOn with
  | _ n ih =>
    intro fuel shift i acc hd hs hn hfuel
    obtain ⟨f, rfl⟩ : ∃ f, fuel = f + 1 := ⟨fuel - 1, by omega⟩
    have hlt : i < d.length := Nat.lt_of_lt_of_le (Nat.lt_add_of_pos_right (encVarint_length_pos n)) hd.le
    rw [varintAux, if_neg (Nat.not_le_of_lt hs), if_neg (Nat.not_le_of_lt hlt)]
    by_cases h : n < 128
    · rw [encVarint_lt n h] at hd ⊢
      have hb : (UInt8.ofNat n).toNat = n := by rw [UInt8.toNat_ofNat']; omega
      have hstrict : ¬ (strict = true ∧ shift = 63 ∧ (UInt8.ofNat n).toNat ≥ 2) := by
        rintro ⟨_, rfl, h2⟩; omega
      rw [hd.index, G.bind_ok, if_neg hstrict, hb, if_pos h, Nat.mod_eq_of_lt h, Nat.mod_eq_of_lt hn]
      rfl
    · rw [encVarint_ge n h] at hd ⊢
      have hb : (UInt8.ofNat (n % 128 + 128)).toNat % 128 = n % 128 ∧ ¬ (UInt8.ofNat (n % 128 + 128)).toNat < 128 := by
        rw [UInt8.toNat_ofNat']; omega
      -- `n = 128 * (n / 128) + n % 128`, multiplied by `2 ^ shift`
      have hmul : n * 2 ^ shift = n % 128 * 2 ^ shift + n / 128 * 2 ^ (shift + 7) := by
        conv => lhs; rw [← Nat.mod_add_div n 128]
        rw [Nat.add_mul, Nat.pow_add, Nat.mul_comm 128, Nat.mul_assoc, Nat.mul_comm 128]
      have hsh : shift + 7 < 64 := by
        refine (Nat.pow_lt_pow_iff_right (a := 2) (by decide)).mp ?_
        have : 1 * 2 ^ (shift + 7) ≤ n / 128 * 2 ^ (shift + 7) := Nat.mul_le_mul_right _ (by omega)
        omega
      have hstrict : ¬ (strict = true ∧ shift = 63 ∧ (UInt8.ofNat (n % 128 + 128)).toNat ≥ 2) := by
        rintro ⟨_, h63, _⟩; omega
      rw [hd.index, G.bind_ok, if_neg hstrict, if_neg hb.2, hb.1, Nat.mod_eq_of_lt (by omega),
        ih (n / 128) (by omega) f (shift + 7) (i + 1) _ (hd.right (a := [_])) hsh (by omega) (by omega),
        hmul, List.length_cons, Nat.add_assoc acc, Nat.add_assoc i, Nat.add_comm 1]

theorem varint_enc (strict : Bool) (n : Nat) (hn : n < 2 ^ 64) (d : Bytes) (i : Nat) (hd : HasAt d i (encVarint n)) :
    varint strict d i = .ok (n, i + (encVarint n).length) := by
  have := varintAux_enc strict d n 11 0 i 0 hd (by decide) (by simpa using hn) (by decide)
  simpa [varint] using this
end IbcVerif.Proto
