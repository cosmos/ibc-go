/-
  Conservation of ICS-20 tokens per channel-end pair: escrow on the source = voucher supply on the
  destination + in flight (both ways), as an inductive invariant of lifecycle-respecting histories.
-/
import IbcVerif.Lemmas.Ics20Logs
namespace IbcVerif.Ics20
open IbcVerif IbcVerif.Xfer

/-- facts about what is outside ibc-go, used by the cross-chain theorems (named hypotheses) -/
structure Assm (cfg : Config) : Prop where
  /-- distinct (port, channel) pairs have distinct escrow addresses (C34 `escrow_address_binds`, modulo a
      collision of the truncated hash) -/
  escInj : ∀ p c p' c', cfg.escrowAddr p c = cfg.escrowAddr p' c' → p = p' ∧ c = c'
  /-- the hash does not collide on the denomination paths in play (idealised SHA-256) -/
  hashInj : ∀ s t, cfg.hashHex s = cfg.hashHex t → s = t
  peerIds : PeerIdsOK cfg
  /-- channel ends are paired -/
  peerSym : ∀ c id c' id', cfg.peer c id = some (c', id') → cfg.peer c' id' = some (c, id)

def NotEscrow (cfg : Config) (a : Addr) : Prop := ∀ p c, a ≠ cfg.escrowAddr p c

/-- the accounts named by messages are user (or module) accounts, not escrow accounts: nobody holds a
    key for an escrow address, and tokens are not sent to escrow addresses outside ICS-20 escrowing -/
def PartiesOK (cfg : Config) : Op → Prop
  | .transfer _ _ _ m _ _ =>
      (∀ a, cfg.decode m.sender = some a → NotEscrow cfg a) ∧ (∀ a, cfg.decode m.receiver = some a → NotEscrow cfg a)
  | .sendV2 _ _ _ data _ _ =>
      (∀ a, cfg.decode data.sender = some a → NotEscrow cfg a) ∧ (∀ a, cfg.decode data.receiver = some a → NotEscrow cfg a)
  | .bankSend _ f t _ _ => NotEscrow cfg f ∧ NotEscrow cfg t
  | _ => True

def PInv (cfg : Config) (w : World) : Prop :=
  ∀ p ∈ w.sent, (∀ a, cfg.decode p.data.sender = some a → NotEscrow cfg a) ∧
    (∀ a, cfg.decode p.data.receiver = some a → NotEscrow cfg a)

abbrev coin (cfg : Config) (d : Denom) : Str := d.ibcDenom cfg.hashHex

def hop (c : Str) : Hop := ⟨transferPort, c⟩

def selF (A : Nat) (cA : Str) (X : Denom) (p : Packet) : Bool :=
  decide (p.srcChain = A ∧ p.srcChan = cA ∧ p.data.denom = X.path)

def selB (B : Nat) (cB : Str) (X : Denom) (p : Packet) : Bool :=
  decide (p.srcChain = B ∧ p.srcChan = cB ∧ p.data.denom = (Denom.mk (hop cB :: X.trace) X.base).path)

/-- **The ICS-20 invariant**, for every channel end `(A, cA)` with peer `(B, cB)` and every token `X` as
    it exists on `A` for which `A` is the source over `cA`. -/
def Conserve (cfg : Config) (w : World) : Prop :=
  ∀ A cA B cB (X : Denom), cfg.peer A cA = some (B, cB) → GoodDenom X → X.hasPrefix transferPort cA = false →
    (w.chains A).bank.bal (cfg.escrowAddr transferPort cA) (coin cfg X) =
      (w.chains B).bank.supply (coin cfg ⟨hop cB :: X.trace, X.base⟩) +
      pendingSum w (selF A cA X) + pendingSum w (selB B cB X)

theorem GoodDenom.tail {d : Denom} {h : Hop} {t : List Hop} (hg : GoodDenom d) (ht : d.trace = h :: t) :
    GoodDenom ⟨t, d.base⟩ :=
  ⟨hg.1, hg.2.1, fun x hx => hg.2.2 x (by rw [ht]; exact List.mem_cons_of_mem _ hx)⟩

theorem good_path_inj {X Y : Denom} (hx : GoodDenom X) (hy : GoodDenom Y) (h : X.path = Y.path) : X = Y := by
  have h1 := hx.stable
  have h2 := hy.stable
  unfold PathStable at h1 h2
  rw [← h1, ← h2, h]

theorem coin_native (H : Str → Str) (d : Denom) (h : d.trace = []) : d.ibcDenom H = d.base := by
  simp [Denom.ibcDenom, Denom.isNative, h]

theorem coin_voucher (H : Str → Str) (d : Denom) (h : d.trace ≠ []) : d.ibcDenom H = "ibc/".toList ++ H d.path := by
  simp [Denom.ibcDenom, Denom.isNative, h]

theorem voucher_coin_prefix (H : Str → Str) (d : Denom) (h : d.trace ≠ []) :
    ibcSlash.isPrefixOf (d.ibcDenom H) = true := by
  rw [coin_voucher H d h]
  exact isPrefixOf_append_self _ _

theorem ne_voucher_coin {H : Str → Str} {x : Str} (hx : ibcSlash.isPrefixOf x = false) (d : Denom) (h : d.trace ≠ []) :
    x ≠ d.ibcDenom H := by
  rintro rfl
  rw [voucher_coin_prefix H d h] at hx
  cases hx

theorem coin_inj {cfg : Config} (ha : Assm cfg) {X Y : Denom} (hx : GoodDenom X) (hy : GoodDenom Y)
    (h : coin cfg X = coin cfg Y) : X = Y := by
  -- a native coin is its base, which does not start with "ibc/"
  have key : ∀ {X Y : Denom}, GoodDenom X → X.trace = [] → Y.trace ≠ [] →
      X.ibcDenom cfg.hashHex ≠ Y.ibcDenom cfg.hashHex :=
    fun {X Y} hx hxt hyt => coin_native cfg.hashHex X hxt ▸ ne_voucher_coin hx.2.1 Y hyt
  by_cases hxt : X.trace = [] <;> by_cases hyt : Y.trace = []
  · rw [coin, coin, coin_native _ _ hxt, coin_native _ _ hyt] at h
    cases X
    cases Y
    simp only at hxt hyt h
    rw [hxt, hyt, h]
  · exact absurd h (key hx hxt hyt)
  · exact absurd h.symm (key hy hyt hxt)
  · rw [coin, coin, coin_voucher _ _ hxt, coin_voucher _ _ hyt] at h
    exact good_path_inj hx hy (ha.hashInj _ _ (List.append_cancel_left h))

theorem hasPrefix_cons (p c : Str) (t : List Hop) (b : Str) (p' c' : Str) :
    (Denom.mk (⟨p, c⟩ :: t) b).hasPrefix p' c' = (p == p' && c == c') := rfl

theorem hasPrefix_true_iff {d : Denom} {p c : Str} :
    d.hasPrefix p c = true ↔ ∃ t, d.trace = ⟨p, c⟩ :: t := by
  unfold Denom.hasPrefix
  cases ht : d.trace with
  | nil => simp
  | cons h t =>
    simp only [Bool.and_eq_true, beq_iff_eq, List.cons.injEq, exists_eq_right']
    constructor
    · rintro ⟨rfl, rfl⟩; rfl
    · intro e; rw [e]; exact ⟨rfl, rfl⟩

/-- with these two, `moveBal_add` (or `debit_add`, `credit_add`) read at an escrow account says what a move does there -/
theorem esc_cond {cfg : Config} (ha : Assm cfg) {x k e e' : Str} :
    (x = k ∧ cfg.escrowAddr transferPort e = cfg.escrowAddr transferPort e') ↔ (e = e' ∧ x = k) :=
  ⟨fun h => ⟨(ha.escInj _ _ _ _ h.2).2, h.1⟩, fun h => ⟨h.2, by rw [h.1]⟩⟩

theorem NotEscrow.cond {cfg : Config} {s : Addr} (hs : NotEscrow cfg s) {x k p c : Str} :
    ¬ (x = k ∧ cfg.escrowAddr p c = s) :=
  fun h => hs _ _ h.2.symm

theorem selF_iff {A : Nat} {cA : Str} {X tok : Denom} {p : Packet} (hX : GoodDenom X) (ht : GoodDenom tok)
    (hpd : p.data.denom = tok.path) : selF A cA X p = true ↔ (p.srcChain = A ∧ p.srcChan = cA ∧ tok = X) := by
  simp only [selF, decide_eq_true_eq, hpd]
  exact and_congr_right fun _ => and_congr_right fun _ => ⟨good_path_inj ht hX, fun h => by rw [h]⟩

theorem selB_eq_selF (B : Nat) (cB : Str) (X : Denom) : selB B cB X = selF B cB ⟨hop cB :: X.trace, X.base⟩ := rfl

theorem good_peer_cons {cfg : Config} (ha : Assm cfg) {A B : Nat} {cA cB : Str} {X : Denom}
    (hpeer : cfg.peer A cA = some (B, cB)) (hX : GoodDenom X) : GoodDenom ⟨hop cB :: X.trace, X.base⟩ := by
  obtain ⟨h1, h2⟩ := ha.peerIds A cA B cB hpeer
  exact hX.cons _ _ transferPort_no_sep h1 h2

/-! ### which instance of the invariant an event belongs to

  A packet concerns exactly one instance `(A, cA, B, cB, X)` of `Conserve`: a packet carrying a token for
  which its source chain is the source is counted by `selF` of that channel end and token; a packet
  carrying a voucher of its own channel is counted by `selB` of the peer's instance.  The four lemmas say
  that this instance is the one whose escrow account (or voucher supply) the packet's send, refund or
  receive moves. -/

section sel
variable {cfg : Config} (ha : Assm cfg) {p : Packet} {tok : Denom} (hgood : GoodDenom tok)
  (hpd : p.data.denom = tok.path) {A B : Nat} {cA cB : Str} {X : Denom}
  (hpeer : cfg.peer A cA = some (B, cB)) (hX : GoodDenom X) (hnp : X.hasPrefix transferPort cA = false)
include ha hgood hpd hpeer hX hnp

omit hnp in
theorem sel_escrow (hpF : tok.hasPrefix transferPort p.srcChan = false) :
    ((selF A cA X p = true ∨ selB B cB X p = true) ↔
      (A = p.srcChain ∧ cA = p.srcChan ∧ coin cfg X = coin cfg tok)) ∧
    ¬ (selF A cA X p = true ∧ selB B cB X p = true) := by
  rw [selB_eq_selF, selF_iff hX hgood hpd, selF_iff (good_peer_cons ha hpeer hX) hgood hpd]
  have hb : ¬ (p.srcChain = B ∧ p.srcChan = cB ∧ tok = ⟨hop cB :: X.trace, X.base⟩) := by
    rintro ⟨_, e, rfl⟩
    simp [hop, Denom.hasPrefix, e] at hpF
  refine ⟨⟨?_, ?_⟩, fun h => hb h.2⟩
  · rintro (⟨e1, e2, e3⟩ | h)
    · exact ⟨e1.symm, e2.symm, by rw [e3]⟩
    · exact absurd h hb
  · rintro ⟨e1, e2, h⟩
    exact Or.inl ⟨e1.symm, e2.symm, (coin_inj ha hX hgood h).symm⟩

theorem sel_voucher (hpT : tok.hasPrefix transferPort p.srcChan = true) :
    ((selF A cA X p = true ∨ selB B cB X p = true) ↔
      (B = p.srcChain ∧ coin cfg ⟨hop cB :: X.trace, X.base⟩ = coin cfg tok)) ∧
    ¬ (selF A cA X p = true ∧ selB B cB X p = true) := by
  have hX' := good_peer_cons ha hpeer hX
  rw [selB_eq_selF, selF_iff hX hgood hpd, selF_iff hX' hgood hpd]
  have hf : ¬ (p.srcChain = A ∧ p.srcChan = cA ∧ tok = X) := by
    rintro ⟨_, e, rfl⟩
    rw [e, hnp] at hpT; cases hpT
  refine ⟨⟨?_, ?_⟩, fun h => hf h.1⟩
  · rintro (h | ⟨e1, _, e3⟩)
    · exact absurd h hf
    · exact ⟨e1.symm, by rw [e3]⟩
  · rintro ⟨e1, h⟩
    have e := coin_inj ha hX' hgood h
    subst e
    simp only [hop, hasPrefix_cons, Bool.and_eq_true, beq_iff_eq, true_and] at hpT
    exact Or.inr ⟨e1.symm, hpT.symm, rfl⟩

variable (hpp : cfg.peer p.srcChain p.srcChan = some (p.dstChain, p.dstChan))
include hpp

theorem sel_recv_escrow (hpT : tok.hasPrefix transferPort p.srcChan = true) :
    ((selF A cA X p = true ∨ selB B cB X p = true) ↔
      (A = p.dstChain ∧ cA = p.dstChan ∧ coin cfg X = coin cfg ⟨tok.trace.tail, tok.base⟩)) ∧
    ¬ (selF A cA X p = true ∧ selB B cB X p = true) := by
  obtain ⟨h1, h2⟩ := sel_voucher ha hgood hpd hpeer hX hnp hpT
  refine ⟨h1.trans ⟨?_, ?_⟩, h2⟩
  · rintro ⟨e1, h⟩
    have e := coin_inj ha (good_peer_cons ha hpeer hX) hgood h
    subst e
    simp only [hop, hasPrefix_cons, Bool.and_eq_true, beq_iff_eq, true_and] at hpT
    rw [← e1, ← hpT, ha.peerSym _ _ _ _ hpeer] at hpp
    cases hpp
    exact ⟨rfl, rfl, rfl⟩
  · rintro ⟨e1, e2, h⟩
    obtain ⟨t, ht⟩ := hasPrefix_true_iff.mp hpT
    have e := coin_inj ha hX (by rw [ht]; exact hgood.tail ht) h
    have hpp' := ha.peerSym _ _ _ _ hpp
    rw [← e1, ← e2, hpeer] at hpp'
    cases hpp'
    refine ⟨rfl, ?_⟩
    obtain ⟨tr, b⟩ := tok
    simp only at ht
    rw [e, ht]; rfl

theorem sel_recv_voucher (hpF : tok.hasPrefix transferPort p.srcChan = false) :
    ((selF A cA X p = true ∨ selB B cB X p = true) ↔
      (B = p.dstChain ∧ coin cfg ⟨hop cB :: X.trace, X.base⟩ = coin cfg ⟨⟨transferPort, p.dstChan⟩ :: tok.trace, tok.base⟩)) ∧
    ¬ (selF A cA X p = true ∧ selB B cB X p = true) := by
  obtain ⟨h1, h2⟩ := sel_escrow ha hgood hpd hpeer hX hpF
  refine ⟨h1.trans ⟨?_, ?_⟩, h2⟩
  · rintro ⟨e1, e2, h⟩
    have e := coin_inj ha hX hgood h
    rw [e1, e2, hpp] at hpeer
    cases hpeer
    exact ⟨rfl, by rw [e]; rfl⟩
  · rintro ⟨e1, h⟩
    obtain ⟨i1, i2⟩ := ha.peerIds _ _ _ _ hpp
    have e := coin_inj ha (good_peer_cons ha hpeer hX) (hgood.cons _ _ transferPort_no_sep i1 i2) h
    injection e with etr eb
    simp only [hop, List.cons.injEq, Hop.mk.injEq, true_and] at etr
    have hpp' := ha.peerSym _ _ _ _ hpp
    rw [← e1, ← etr.1, ha.peerSym _ _ _ _ hpeer] at hpp'
    cases hpp'
    refine ⟨rfl, rfl, ?_⟩
    obtain ⟨tr, b⟩ := X
    simp only at etr eb
    rw [etr.2, eb]

end sel

/-- the bookkeeping: an instance's equation survives an event that moves its escrow balance, its voucher
    supply and the in-flight sums of the one packet concerned by amounts that balance -/
theorem conserve_arith {f b : Bool} {cond : Prop} [Decidable cond] (hiff : (f = true ∨ b = true) ↔ cond)
    (hnot : ¬ (f = true ∧ b = true)) {E E' S S' PF PF' PB PB' ei eo si so pi po : Nat}
    (hE : E' + (if cond then eo else 0) = E + (if cond then ei else 0))
    (hS : S' + (if cond then so else 0) = S + (if cond then si else 0))
    (hF : PF' + (if f = true then po else 0) = PF + (if f = true then pi else 0))
    (hB : PB' + (if b = true then po else 0) = PB + (if b = true then pi else 0))
    (hbal : ei + so + po = eo + si + pi) (hinv : E = S + PF + PB) : E' = S' + PF' + PB' := by
  cases f <;> cases b <;> simp at hiff hnot <;> simp [hiff] at hE hS hF hB <;> omega

section events
variable {cfg : Config} {w w' : World} {c : Nat} {ch' : Chain} {k : Str} {inn out : Nat} {p : Packet}

theorem setChain_lift {g : Chain → Nat} {P : Prop} [Decidable P] {x y : Nat}
    (h : g ch' + (if P then x else 0) = g (w.chains c) + (if P then y else 0)) (A : Nat) :
    g ((w.setChain c ch').chains A) + (if A = c ∧ P then x else 0) =
      g (w.chains A) + (if A = c ∧ P then y else 0) := by
  by_cases hAc : A = c
  · subst hAc
    simpa only [setChain_same, true_and] using h
  · rw [setChain_other _ _ _ _ hAc, if_neg (fun h => hAc h.1), if_neg (fun h => hAc h.1)]

/-- `inn` of coin `k` enters, or `out` leaves, the escrow account of channel `e` on chain `c`, and the
    in-flight amount of packet `p` moves with it -/
theorem conserve_escrow_event (hc : Conserve cfg w) {e : Str}
    (hchains : w'.chains = (w.setChain c ch').chains) (hsup : ch'.bank.supply = (w.chains c).bank.supply)
    (hE : ∀ cA y, ch'.bank.bal (cfg.escrowAddr transferPort cA) y + (if cA = e ∧ y = k then out else 0) =
      (w.chains c).bank.bal (cfg.escrowAddr transferPort cA) y + (if cA = e ∧ y = k then inn else 0))
    (hP : ∀ sel, pendingSum w' sel + (if sel p = true then out else 0) = pendingSum w sel + (if sel p = true then inn else 0))
    (hsel : ∀ A cA B cB X, cfg.peer A cA = some (B, cB) → GoodDenom X → X.hasPrefix transferPort cA = false →
      ((selF A cA X p = true ∨ selB B cB X p = true) ↔ (A = c ∧ cA = e ∧ coin cfg X = k)) ∧
      ¬ (selF A cA X p = true ∧ selB B cB X p = true)) : Conserve cfg w' := by
  intro A cA B cB X hpeer hX hnp
  obtain ⟨hiff, hnot⟩ := hsel A cA B cB X hpeer hX hnp
  rw [hchains]
  have hS := setChain_congr (fun ch => ch.bank.supply) hsup B
  exact conserve_arith hiff hnot (so := 0) (si := 0)
    (setChain_lift (g := fun ch => ch.bank.bal (cfg.escrowAddr transferPort cA) (coin cfg X)) (hE cA _) A)
    (by rw [hS]) (hP _) (hP _) (by omega) (hc A cA B cB X hpeer hX hnp)

/-- `inn` of voucher `k` is burnt, or `out` minted, on chain `c`, no escrow account moves, and the
    in-flight amount of packet `p` moves the other way -/
theorem conserve_voucher_event (hc : Conserve cfg w)
    (hchains : w'.chains = (w.setChain c ch').chains)
    (hE : ∀ cA y, ch'.bank.bal (cfg.escrowAddr transferPort cA) y = (w.chains c).bank.bal (cfg.escrowAddr transferPort cA) y)
    (hS : ∀ y, ch'.bank.supply y + (if y = k then inn else 0) = (w.chains c).bank.supply y + (if y = k then out else 0))
    (hP : ∀ sel, pendingSum w' sel + (if sel p = true then out else 0) = pendingSum w sel + (if sel p = true then inn else 0))
    (hsel : ∀ A cA B cB X, cfg.peer A cA = some (B, cB) → GoodDenom X → X.hasPrefix transferPort cA = false →
      ((selF A cA X p = true ∨ selB B cB X p = true) ↔ (B = c ∧ coin cfg ⟨hop cB :: X.trace, X.base⟩ = k)) ∧
      ¬ (selF A cA X p = true ∧ selB B cB X p = true)) : Conserve cfg w' := by
  intro A cA B cB X hpeer hX hnp
  obtain ⟨hiff, hnot⟩ := hsel A cA B cB X hpeer hX hnp
  rw [hchains]
  have hEA := setChain_congr (fun ch => ch.bank.bal (cfg.escrowAddr transferPort cA) (coin cfg X)) (hE cA _) A
  exact conserve_arith hiff hnot (eo := 0) (ei := 0) (by rw [hEA])
    (setChain_lift (g := fun ch => ch.bank.supply (coin cfg ⟨hop cB :: X.trace, X.base⟩)) (hS _) B)
    (hP _) (hP _) (by omega) (hc A cA B cB X hpeer hX hnp)

end events

theorem conserve_send {cfg : Config} (ha : Assm cfg) {w w' : World} (hl : LInv w) (hc : Conserve cfg w)
    {c : Nat} {chan : Str} {tok : Denom} {n : Nat} {s : Addr} {ch' : Chain} {p : Packet}
    (hst : sendTransfer cfg c (w.chains c) transferPort chan tok n s = .ok ch')
    (hgood : GoodDenom tok) (hs : NotEscrow cfg s) (hfresh : p ∉ w.sent)
    (hpc : p.srcChain = c) (hpch : p.srcChan = chan) (hpd : p.data.denom = tok.path) (hpn : p.data.amount = n)
    (hw' : w' = { w.setChain c ch' with sent := p :: w.sent }) : Conserve cfg w' := by
  have hP : ∀ sel, pendingSum w' sel + (if sel p = true then 0 else 0) =
      pendingSum w sel + (if sel p = true then n else 0) := fun sel => by
    rw [pendingSum_cons (w' := w') p sel hl hfresh (by rw [hw']) (by rw [hw']; rfl) (by rw [hw']; rfl) (by rw [hw']; rfl),
      hpn, ite_self, Nat.add_zero, Nat.add_comm]
  obtain ⟨_, _, _, hn, heff⟩ := sendTransfer_effect hst
  subst hpc hpch
  rcases heff with ⟨hpT, hsn, hbal, hsup, _⟩ | ⟨hpF, hbal, hsup, _⟩
  · refine conserve_voucher_event hc (by rw [hw']) (fun cA y => by rw [hbal, if_neg hs.cond])
      (fun y => ?_) hP (fun A cA B cB X hpeer hX hnp => sel_voucher ha hgood hpd hpeer hX hnp hpT)
    rw [hsup]
    split_ifs with h
    · subst h; omega
    · rfl
  · exact conserve_escrow_event hc (by rw [hw']) hsup
      (fun cA y => by
        simpa only [hbal, hs.cond, esc_cond ha, if_false, ite_self] using
          moveBal_add (t := cfg.escrowAddr transferPort p.srcChan) hn (cfg.escrowAddr transferPort cA) y) hP
      (fun A cA B cB X hpeer hX hnp => sel_escrow ha hgood hpd hpeer hX hpF)

theorem conserve_refund {cfg : Config} (ha : Assm cfg) {w w' : World} (hwi : WInv cfg w) (hl : LInv w)
    (hpi : PInv cfg w) (hc : Conserve cfg w) {p : Packet} {ch' : Chain} (hp : p ∈ w.sent)
    (href : refundPacketTokens cfg p.srcChain (w.chains p.srcChain) p.srcPort p.srcChan p.data = .ok ch')
    (hchains : w'.chains = (w.setChain p.srcChain ch').chains) (hsent : w'.sent = w.sent)
    (hwas : pending w p = true) (hnow : pending w' p = false)
    (hothers : ∀ q ∈ w.sent, q ≠ p → pending w' q = pending w q) : Conserve cfg w' := by
  obtain ⟨hgood, hpath, hsp, _, _, _⟩ := hwi.sent p hp
  have hP : ∀ sel, pendingSum w' sel + (if sel p = true then p.data.amount else 0) =
      pendingSum w sel + (if sel p = true then 0 else 0) := fun sel => by
    rw [pendingSum_resolve p sel hl hp hsent hwas hnow hothers, ite_self, Nat.add_zero]
  obtain ⟨s, hs, _, _, _, heff⟩ := refund_effect href
  have hsne : NotEscrow cfg s := (hpi p hp).1 s hs
  rw [hsp] at heff
  rcases heff with ⟨hpT, hbal, hsup, _⟩ | ⟨hpF, hn, _, hbal, hsup, _⟩
  · exact conserve_voucher_event hc hchains (fun cA y => by rw [hbal, if_neg hsne.cond])
      (fun y => by rw [hsup]; split_ifs <;> rfl) hP
      (fun A cA B cB X hpeer hX hnp => sel_voucher ha hgood hpath.symm hpeer hX hnp hpT)
  · exact conserve_escrow_event hc hchains hsup
      (fun cA y => by
        simpa only [hbal, hsne.cond, esc_cond ha, if_false, ite_self] using
          moveBal_add (t := s) hn (cfg.escrowAddr transferPort cA) y) hP
      (fun A cA B cB X hpeer hX hnp => sel_escrow ha hgood hpath.symm hpeer hX hpF)

theorem conserve_recv_ok {cfg : Config} (ha : Assm cfg) {w w' : World} (hwi : WInv cfg w) (hl : LInv w)
    (hpi : PInv cfg w) (hc : Conserve cfg w) {p : Packet} {ch' : Chain} (hp : p ∈ w.sent)
    (hon : onRecvPacket cfg p.dstChain (w.chains p.dstChain) p.data p.srcPort p.srcChan p.dstPort p.dstChan = .ok ch')
    (hchains : w'.chains = (w.setChain p.dstChain ch').chains) (hsent : w'.sent = w.sent)
    (hwas : pending w p = true) (hnow : pending w' p = false)
    (hothers : ∀ q ∈ w.sent, q ≠ p → pending w' q = pending w q) : Conserve cfg w' := by
  obtain ⟨hgood, hpath, hsp, hdp, hpp, _⟩ := hwi.sent p hp
  have hP : ∀ sel, pendingSum w' sel + (if sel p = true then p.data.amount else 0) =
      pendingSum w sel + (if sel p = true then 0 else 0) := fun sel => by
    rw [pendingSum_resolve p sel hl hp hsent hwas hnow hothers, ite_self, Nat.add_zero]
  obtain ⟨r, hr, _, _, _, heff⟩ := onRecvPacket_effect hon
  have hrne : NotEscrow cfg r := (hpi p hp).2 r hr
  rw [hsp, hdp] at heff
  rcases heff with ⟨hpT, _, hn, _, hbal, hsup, _⟩ | ⟨hpF, _, hbal, hsup, _⟩
  · rw [recvCoin_unwind hpT] at hn hbal
    exact conserve_escrow_event hc hchains hsup
      (fun cA y => by
        simpa only [hbal, hrne.cond, esc_cond ha, if_false, ite_self] using
          moveBal_add (t := r) hn (cfg.escrowAddr transferPort cA) y) hP
      (fun A cA B cB X hpeer hX hnp => sel_recv_escrow ha hgood hpath.symm hpeer hX hnp hpp hpT)
  · rw [recvCoin_mint hpF] at hbal hsup
    exact conserve_voucher_event hc hchains (fun cA y => by rw [hbal, if_neg hrne.cond])
      (fun y => by rw [hsup]; split_ifs <;> rfl) hP
      (fun A cA B cB X hpeer hX hnp => sel_recv_voucher ha hgood hpath.symm hpeer hX hnp hpp hpF)

theorem conserve_same {cfg : Config} {w w' : World} (hc : Conserve cfg w)
    (hbank : ∀ c, (w'.chains c).bank = (w.chains c).bank) (hsent : w'.sent = w.sent)
    (hothers : ∀ q ∈ w.sent, pending w' q = pending w q) : Conserve cfg w' := by
  intro A cA B cB X hpeer hX hnp
  rw [hbank, hbank, pendingSum_same _ hsent hothers, pendingSum_same _ hsent hothers]
  exact hc A cA B cB X hpeer hX hnp

end IbcVerif.Ics20
