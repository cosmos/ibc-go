/-
  Model/Proto.lean, second pass (`unmarshal`, the generated `Unmarshal`): one round of `unmarshalLoop` over a known
  field stores its payload; on `encode vals` the loop returns `vals`.
-/
import IbcVerif.Lemmas.ProtoReject
namespace IbcVerif.Proto
open IbcVerif

theorem unmarshalLoop_step (k fuel : Nat) (d v : Bytes) (num i : Nat) (cur : List Bytes)
    (hd : HasAt d i (encRawField num v)) (h1 : 1 ≤ num) (hk : num ≤ k) (hk31 : k < 2 ^ 31) (hdl : d.length < 2 ^ 63) :
    unmarshalLoop k (fuel + 1) d i cur =
      unmarshalLoop k fuel d (i + (encRawField num v).length) (setAt cur (num - 1) v) := by
  have hle := hd.le
  have hpos := encVarint_length_pos (tagOf num)
  simp only [encRawField, List.length_append] at hle
  obtain ⟨i1, i2, ht, hl, hp, he⟩ := rawField_header false hd (by unfold tagOf; omega) (by omega)
  have hle2 := hp.le
  rw [unmarshalLoop, if_neg (by omega), ht]
  rw [G.bind_ok]
  dsimp only
  rw [tagOf_div, Nat.mod_eq_of_lt (show num < 2 ^ 32 by omega), tagOf_mod, if_neg (by omega), if_neg (by omega), if_pos hk,
    if_neg (by simp), hl]
  rw [G.bind_ok]
  dsimp only
  rw [if_neg (by omega), if_neg (by omega), if_neg (by omega), hp.slice _ rfl, G.bind_ok, he]

theorem setAt_mid (done : List Bytes) (x v : Bytes) (tl : List Bytes) :
    setAt (done ++ x :: tl) done.length v = done ++ v :: tl := by
  induction done with
  | nil => rfl
  | cons a as ih => simp [setAt, ih]

theorem unmarshalLoop_encFields (k : Nat) (hk31 : k < 2 ^ 31) (d : Bytes) (hdl : d.length < 2 ^ 63) :
    ∀ (vals : List Bytes) (fuel i : Nat) (done : List Bytes),
    HasAt d i (encFieldsFrom (done.length + 1) vals) → d.length = i + (encFieldsFrom (done.length + 1) vals).length →
    done.length + vals.length = k → (encFieldsFrom (done.length + 1) vals).length + 1 ≤ fuel →
    unmarshalLoop k fuel d i (done ++ List.replicate vals.length []) = .ok (done ++ vals)
  | [], fuel, i, done, _, hl, _, hf => by
    obtain ⟨f, rfl⟩ : ∃ f, fuel = f + 1 := ⟨fuel - 1, by omega⟩
    have : d.length = i := hl
    rw [unmarshalLoop, if_pos (by omega), if_neg (by omega)]
    rfl
  | v :: vs, fuel, i, done, hd, hl, hk, hf => by
    have ih := fun x => unmarshalLoop_encFields k hk31 d hdl vs (done := done ++ [x])
    simp only [List.length_append, List.length_singleton, List.append_assoc, List.singleton_append] at ih
    rw [List.length_cons] at hk
    by_cases he : v = []
    · subst he
      exact ih [] fuel i hd hl (by omega) hf
    · rw [encFieldsFrom, encField_nonempty _ v he] at hd hl hf
      rw [List.length_append] at hl hf
      have hp := encRawField_length_pos (done.length + 1) v
      obtain ⟨f, rfl⟩ : ∃ f, fuel = f + 1 := ⟨fuel - 1, by omega⟩
      rw [unmarshalLoop_step k f d v (done.length + 1) i _ hd.left (by omega) (by omega) hk31 hdl,
        List.length_cons, List.replicate_succ, Nat.add_sub_cancel, setAt_mid]
      exact ih v f _ hd.right (by omega) (by omega) (by omega)

theorem unmarshal_encode (k : Nat) (hk31 : k < 2 ^ 31) (vals : List Bytes) (hl : vals.length = k)
    (hdl : (encode vals).length < 2 ^ 63) : unmarshal k (encode vals) = .ok vals := by
  have := unmarshalLoop_encFields k hk31 _ hdl vals _ 0 [] (HasAt.self _) (Nat.zero_add _).symm (by simpa using hl)
    (Nat.le_refl _)
  rwa [hl] at this

theorem encode_field_le (vals : List Bytes) : ∀ v ∈ vals, v.length ≤ (encode vals).length := by
  unfold encode
  generalize 1 = num
  induction vals generalizing num with
  | nil => intro v hv; cases hv
  | cons x xs ih =>
    intro v hv
    have hx : x.length ≤ (encField num x).length := by
      by_cases he : x = []
      · subst he; simp
      · rw [encField_nonempty num x he]; simp only [encRawField, List.length_append]; omega
    rcases List.mem_cons.mp hv with rfl | h
    · simp only [encFieldsFrom, List.length_append]; omega
    · have := ih (num + 1) v h
      simp only [encFieldsFrom, List.length_append]; omega

end IbcVerif.Proto
