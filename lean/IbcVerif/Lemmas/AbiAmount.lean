/-
  Model/AbiAmount.lean (`sdkmath.NewIntFromString`, i.e. `big.Int.SetString(s, 0)`): the base-0 scanner reads the
  canonical decimal `dec n` as `n`, and whatever it accepts is below 2^256.
-/
import IbcVerif.Model.AbiAmount
import IbcVerif.Lemmas.Dec
namespace IbcVerif.Abi
open IbcVerif

theorem digitVal_of_isDigit (c : Char) (h : c.isDigit = true) : digitVal c = c.toNat - '0'.toNat ∧ digitVal c < 10 ∧ c ≠ '_' := by
  obtain ⟨hge, hle⟩ := digit_toNat c h
  have h1 : '0' ≤ c ∧ c ≤ '9' := ⟨UInt32.le_iff_toNat_le.mpr hge, UInt32.le_iff_toNat_le.mpr hle⟩
  have hv : digitVal c = c.toNat - '0'.toNat := by rw [digitVal, if_pos h1]
  refine ⟨hv, ?_, ?_⟩
  · rw [hv, show '0'.toNat = 48 from rfl]; omega
  · rintro rfl; exact absurd h (by decide)

theorem scanLoop_digits (ds : List Char) (hall : ds.all Char.isDigit = true) (pd : Bool) (count acc : Nat) :
    scanLoop 10 false ds pd false false count acc =
      if count + ds.length = 0 then none else some (Nat.ofDigitChars 10 ds acc) := by
  induction ds generalizing pd count acc with
  | nil => simp [scanLoop]
  | cons c cs ih =>
    simp only [List.all_cons, Bool.and_eq_true] at hall
    obtain ⟨hv, hlt, hne⟩ := digitVal_of_isDigit c hall.1
    rw [scanLoop, if_neg hne, if_neg (by omega), ih hall.2]
    simp only [List.length_cons]
    rw [if_neg (by omega), if_neg (by omega)]
    congr 1
    simp only [Nat.ofDigitChars_eq_foldl, List.foldl_cons]
    rw [hv, Nat.mul_comm]

theorem dec_head_ne_zero (n : Nat) (hn : 0 < n) : ∃ c cs, dec n = c :: cs ∧ c ≠ '0' := by
  induction n using Nat.strongRecOn with
  | _ n ih =>
    by_cases h : n < 10
    · refine ⟨n.digitChar, [], ?_, ?_⟩
      · simp [dec, Nat.toDigits_of_lt_base h]
      · intro he; have := Nat.digitChar_eq_zero.mp he; omega
    · have hdiv : 0 < n / 10 := by omega
      obtain ⟨c, cs, hcs, hc⟩ := ih (n / 10) (by omega) hdiv
      refine ⟨c, cs ++ [(n % 10).digitChar], ?_, hc⟩
      simp only [dec] at hcs ⊢
      rw [Nat.toDigits_of_base_le (by decide) (by omega), hcs]
      rfl

theorem scan0_dec (n : Nat) : scan0 (dec n) = some n := by
  by_cases hn : n = 0
  · subst hn; simp [dec, Nat.toDigits_zero, scan0]
  · obtain ⟨c, cs, hcs, hc⟩ := dec_head_ne_zero n (by omega)
    have hall := dec_all_digits n
    have hval : Nat.ofDigitChars 10 (dec n) 0 = n := by simp [dec]
    rw [hcs] at hall hval ⊢
    have : scan0 (c :: cs) = scanLoop 10 false (c :: cs) false false false 0 0 := by
      unfold scan0
      split
      · rename_i heq; injection heq with h1 h2; exact absurd h1 hc
      · rename_i heq; injection heq with h1 h2; exact absurd h1 hc
      · rfl
    rw [this, scanLoop_digits _ hall, if_neg (by simp), hval]

theorem parseBig0_dec (n : Nat) : parseBig0 (dec n) = some (false, n) := by
  obtain ⟨c, cs, hd, hc⟩ := dec_head_isDigit n
  have hs := scan0_dec n
  rw [hd] at hs ⊢
  unfold parseBig0
  split
  · rename_i r heq; injection heq with a b; rw [a] at hc; exact absurd hc (by decide)
  · rename_i r heq; injection heq with a b; rw [a] at hc; exact absurd hc (by decide)
  · rw [hs]; rfl

theorem newIntFromString_lt {s : List Char} {neg : Bool} {n : Nat} (h : newIntFromString s = some (neg, n)) :
    n < 2 ^ 256 := by
  unfold newIntFromString at h
  split at h
  · split at h
    · cases h; assumption
    · cases h
  · cases h

theorem newIntFromString_dec (n : Nat) (hn : n < 2 ^ 256) : newIntFromString (dec n) = some (false, n) := by
  simp [newIntFromString, parseBig0_dec, hn]
end IbcVerif.Abi
