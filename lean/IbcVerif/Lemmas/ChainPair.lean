/-
  Two chains with honest light clients: the agreement invariant and its preservation.
-/
import IbcVerif.Model.ChainPair
import IbcVerif.Lemmas.ChainInv3
namespace IbcVerif.Chain
open FMap

/-- an OPEN channel end `e` at `(p, c)` on X is matched on Y -/
def ChanOK (X Y : ChainState) (p c : Id) (e : Channel) : Prop :=
  ∃ b h ce, Y.chan.get (e.cpPort, e.cpChan) = some b ∧ b.state ≠ .init ∧ b.ordering = e.ordering ∧
    b.cpPort = p ∧ b.cpChan = c ∧ b.version = e.version ∧
    e.hops.head? = some h ∧ X.conn.get h = some ce ∧ ce.state = .opened ∧ b.hops = [ce.cpConn]

/-- an OPEN connection end `e` at `c` on X is matched on Y -/
def ConnOK (Y : ChainState) (c : Id) (e : ConnEnd) : Prop :=
  ∃ f v, Y.conn.get e.cpConn = some f ∧ f.state ≠ .init ∧ f.client = e.cpClient ∧ f.cpClient = e.client ∧
    f.cpConn = c ∧ f.delay = e.delay ∧ f.versions = e.versions ∧ e.versions = [v]

structure Agree (X Y : ChainState) : Prop where
  chan : ∀ p c e, X.chan.get (p, c) = some e → e.state = .opened → ChanOK X Y p c e
  conn : ∀ c e, X.conn.get c = some e → e.state = .opened → ConnOK Y c e
  trySingle : ∀ c e, X.conn.get c = some e → e.state = .tryopen → ∃ v, e.versions = [v]

def Good (s : ChainState) : Prop := Inv s ∧ Inv3 s

theorem Good.step {s s' : ChainState} (h : Good s) (ht : Tr s s') : Good s' := ⟨h.1.step ht, h.2.step ht⟩

theorem Agree.other_step {X Y Y' : ChainState} (hg : Good Y) (ha : Agree X Y) (ht : Tr Y Y') : Agree X Y' := by
  refine ⟨?_, ?_, ha.trySingle⟩
  · intro p c e he ho
    obtain ⟨b, h, ce, hb, hn, h1, h2, h3, h4, h5, h6, h7, h8⟩ := ha.chan p c e he ho
    obtain ⟨b', hb', hn', g1, g2, g3, g4, g5⟩ := chan_nonInit_after hg.1 ht hb hn
    exact ⟨b', h, ce, hb', hn', g1.trans h1, g2.trans h2, g3.trans h3, g4.trans h4, h5, h6, h7, g5.trans h8⟩
  · intro c e he ho
    obtain ⟨f, v, hf, hn, h1, h2, h3, h4, h5, h6⟩ := ha.conn c e he ho
    obtain ⟨f', hf', hn', g1, g2, g3, g4, g5⟩ := conn_nonInit_after hg.2 ht hf hn
    exact ⟨f', v, hf', hn', g1.trans h1, g2.trans h2, g3.trans h3, g4.trans h4, g5.trans h5, h6⟩

/-- what the counterparty holds at the moment a channel end of X becomes OPEN -/
def ChanOpenWitness (X Y : ChainState) (body : Body) (p c : Id) (e' : Channel) : Prop :=
  ∃ b hop conn, Y.chan.get (e'.cpPort, e'.cpChan) = some b ∧ b.ordering = e'.ordering ∧ b.cpPort = p ∧ b.cpChan = c ∧
    b.version = e'.version ∧ e'.hops.head? = some hop ∧ X.conn.get hop = some conn ∧ conn.state = .opened ∧
    b.hops = [conn.cpConn] ∧ conn.cpPrefix = storePrefix ∧
    ((∃ cpChan cpVersion app, body = .chanOpenAck p c cpChan cpVersion app ∧ b.state = .tryopen) ∨
     (∃ app, body = .chanOpenConfirm p c app ∧ b.state = .opened))

/-- what the counterparty holds at the moment a connection end of X becomes OPEN -/
def ConnOpenWitness (Y : ChainState) (body : Body) (c : Id) (e' : ConnEnd) : Prop :=
  ∃ f, Y.conn.get e'.cpConn = some f ∧ f.client = e'.cpClient ∧ f.cpClient = e'.client ∧ f.cpConn = c ∧
    f.delay = e'.delay ∧ f.versions = e'.versions ∧ f.cpPrefix = storePrefix ∧ e'.cpPrefix = storePrefix ∧
    ((∃ version, body = .connOpenAck c e'.cpConn version ∧ f.state = .tryopen ∧ e'.versions = [version]) ∨
     (body = .connOpenConfirm c ∧ f.state = .opened))

/-- the successful ChanOpenAck / ChanOpenConfirm for `(p, c)` under the honest verdict: the end it
    wrote, and the counterparty end the verified proof stands for -/
theorem chan_opened {X X' Y : ChainState} {op : Op} {out : Out} {p c : Id}
    (h : sideStep X Y op = (X', out)) (hok : out.isOk = true) (hb : op.body.opensChan = some (p, c)) :
    X'.conn = X.conn ∧ ∃ e', X'.chan.get (p, c) = some e' ∧ ChanOpenWitness X Y op.body p c e' := by
  obtain ⟨env, body⟩ := op
  unfold sideStep honestEnv at h
  cases body <;> cases hb
  · rename_i cpChan cpVersion app
    obtain ⟨ch, hop, conn, C, A, B, hch, hst, hgc, hco, hv, _, rfl⟩ := (chanOpenAck_cases h).ok hok
    obtain ⟨hh, hcg⟩ := getConn_ok hgc
    have hy : conn.cpPrefix = storePrefix ∧
        Y.chan.get (ch.cpPort, cpChan) = some ⟨.tryopen, ch.ordering, p, c, [conn.cpConn], cpVersion⟩ := by
      simpa [honestV1, expectedChan, hch, hgc] using verify_ok_v hv
    exact ⟨rfl, { ch with state := .opened, version := cpVersion, cpChan := cpChan }, FMap.get_set_self _ _ _,
      _, hop, conn, hy.2, rfl, rfl, rfl, rfl, hh, hcg, hco, rfl, hy.1, .inl ⟨_, _, _, rfl, rfl⟩⟩
  · rename_i app
    obtain ⟨ch, hop, conn, C, A, B, hch, hst, hgc, hco, hv, _, rfl⟩ := (chanOpenConfirm_cases h).ok hok
    obtain ⟨hh, hcg⟩ := getConn_ok hgc
    have hy : conn.cpPrefix = storePrefix ∧
        Y.chan.get (ch.cpPort, ch.cpChan) = some ⟨.opened, ch.ordering, p, c, [conn.cpConn], ch.version⟩ := by
      simpa [honestV1, expectedChan, hch, hgc] using verify_ok_v hv
    exact ⟨rfl, { ch with state := .opened }, FMap.get_set_self _ _ _,
      _, hop, conn, hy.2, rfl, rfl, rfl, rfl, hh, hcg, hco, rfl, hy.1, .inr ⟨_, rfl, rfl⟩⟩

/-- the successful ConnOpenAck / ConnOpenConfirm for `c` under the honest verdict -/
theorem conn_opened {X X' Y : ChainState} {op : Op} {out : Out} {c : Id}
    (h : sideStep X Y op = (X', out)) (hok : out.isOk = true) (hb : op.body.opensConn = some c) :
    ∃ e', X'.conn.get c = some e' ∧ ConnOpenWitness Y op.body c e' ∧
      (op.body = .connOpenConfirm c → ∃ e, X.conn.get c = some e ∧ e.state = .tryopen ∧ e'.versions = e.versions) := by
  obtain ⟨env, body⟩ := op
  unfold sideStep honestEnv at h
  cases body <;> cases hb
  · rename_i cpConn version
    obtain ⟨conn, hcg, hst, _, hv, rfl⟩ := (connOpenAck_cases h).ok hok
    have hy : conn.cpPrefix = storePrefix ∧
        Y.conn.get cpConn = some ⟨.tryopen, conn.cpClient, conn.client, c, storePrefix, [version], conn.delay⟩ := by
      simpa [honestV1, expectedChan, expectedConn, hcg] using verify_ok_v hv
    exact ⟨{ conn with state := .opened, versions := [version], cpConn := cpConn }, FMap.get_set_self _ _ _,
      ⟨_, hy.2, rfl, rfl, rfl, rfl, rfl, rfl, hy.1, .inl ⟨version, rfl, rfl, rfl⟩⟩, nofun⟩
  · obtain ⟨conn, hcg, hst, hv, rfl⟩ := (connOpenConfirm_cases h).ok hok
    have hy : conn.cpPrefix = storePrefix ∧
        Y.conn.get conn.cpConn = some ⟨.opened, conn.cpClient, conn.client, c, storePrefix, conn.versions, conn.delay⟩ := by
      simpa [honestV1, expectedChan, expectedConn, hcg] using verify_ok_v hv
    exact ⟨{ conn with state := .opened }, FMap.get_set_self _ _ _,
      ⟨_, hy.2, rfl, rfl, rfl, rfl, rfl, rfl, hy.1, .inr ⟨rfl, rfl⟩⟩, fun _ => ⟨conn, hcg, hst, rfl⟩⟩

theorem chan_open_cases {X X' Y : ChainState} {op : Op} {out : Out} {p c : Id} {e' : Channel}
    (h : sideStep X Y op = (X', out)) (he' : X'.chan.get (p, c) = some e') (ho' : e'.state = .opened) :
    X.chan.get (p, c) = some e' ∨ (X'.conn = X.conn ∧ ChanOpenWitness X Y op.body p c e') := by
  cases hok : out.isOk with
  | false => exact .inl (step_unchanged h hok ▸ he')
  | true =>
    rcases (step_shape h).1 with heq | ⟨key, v, hset, hopen⟩
    · exact .inl (heq ▸ he')
    · have he := he'
      rw [hset, FMap.get_set] at he
      split at he
      · rename_i hk
        cases he
        obtain ⟨hconn, e2, he2, hw⟩ := chan_opened h hok (hk ▸ hopen ho')
        cases he'.symm.trans he2
        exact .inr ⟨hconn, hw⟩
      · exact .inl he

theorem conn_open_cases {X X' Y : ChainState} {op : Op} {out : Out} {c : Id} {e' : ConnEnd}
    (h : sideStep X Y op = (X', out)) (he' : X'.conn.get c = some e') (ho' : e'.state = .opened) :
    X.conn.get c = some e' ∨ (ConnOpenWitness Y op.body c e' ∧
      (op.body = .connOpenConfirm c → ∃ e, X.conn.get c = some e ∧ e.state = .tryopen ∧ e'.versions = e.versions)) := by
  cases hok : out.isOk with
  | false => exact .inl (step_unchanged h hok ▸ he')
  | true =>
    rcases (step_shape h).2 with heq | ⟨key, v, hset, hopen⟩
    · exact .inl (heq ▸ he')
    · have he := he'
      rw [hset, FMap.get_set] at he
      split at he
      · rename_i hk
        cases he
        obtain ⟨e2, he2, hw⟩ := conn_opened h hok (hk ▸ hopen ho')
        cases he'.symm.trans he2
        exact .inr hw
      · exact .inl he

theorem Agree.me_step {X Y : ChainState} (hg : Good X) (ha : Agree X Y) (op : Op) : Agree (sideStep X Y op).1 Y := by
  rcases h : sideStep X Y op with ⟨X', out⟩
  have ht : Tr X X' := step_tr h
  refine ⟨fun p c e' he' ho' => ?_, fun c e' he' ho' => ?_, fun c e' he' hs' => ?_⟩
  · rcases chan_open_cases h he' ho' with h0 | ⟨hconn, hw⟩
    · obtain ⟨b, hp, ce, hb, hn, h1, h2, h3, h4, h5, h6, h7, h8⟩ := ha.chan p c e' h0 ho'
      exact ⟨b, hp, ce, hb, hn, h1, h2, h3, h4, h5, conn_open_after hg.2 ht h6 h7, h7, h8⟩
    · obtain ⟨b, hop, conn, hb, h1, h2, h3, h4, hh, hc, hco, hhops, _, hst⟩ := hw
      refine ⟨b, hop, conn, hb, ?_, h1, h2, h3, h4, hh, hconn ▸ hc, hco, hhops⟩
      rcases hst with ⟨_, _, _, _, hs⟩ | ⟨_, _, hs⟩ <;> rw [hs] <;> simp
  · rcases conn_open_cases h he' ho' with h0 | ⟨⟨f, hy, h1, h2, h3, h4, h5, _, _, hst⟩, hconf⟩
    · exact ha.conn c e' h0 ho'
    · rcases hst with ⟨version, _, hs, hv⟩ | ⟨hbody, hs⟩
      · exact ⟨f, version, hy, by simp [hs], h1, h2, h3, h4, h5, hv⟩
      · -- ConnOpenConfirm: the TRYOPEN end carried a single version
        obtain ⟨e, he, hes, hvers⟩ := hconf hbody
        obtain ⟨ver, hver⟩ := ha.trySingle c e he hes
        exact ⟨f, ver, hy, by simp [hs], h1, h2, h3, h4, h5, hvers.trans hver⟩
  · cases hs : X.conn.get c with
    | none => exact (ht.connNew c e' hs he').2.2.2.2 hs'
    | some e =>
      obtain ⟨e2, h1, h2⟩ := conn_after hg.2 ht hs
      cases he'.symm.trans h1
      rcases h2 with h' | ⟨_, h', _⟩ | ⟨_, h'⟩
      · subst h'; exact ha.trySingle c _ hs hs'
      · rw [hs'] at h'; cases h'
      · rw [h'] at hs'; cases hs'

theorem chan_open_step {X Y : ChainState} {op : Op} {p c : Id} {e' : Channel}
    (he' : (sideStep X Y op).1.chan.get (p, c) = some e') (ho' : e'.state = .opened)
    (hnew : ∀ e, X.chan.get (p, c) = some e → e.state ≠ .opened) : ChanOpenWitness X Y op.body p c e' :=
  (chan_open_cases (Prod.eta _).symm he' ho').elim (fun h0 => absurd ho' (hnew _ h0)) (·.2)

theorem conn_open_step {X Y : ChainState} {op : Op} {c : Id} {e' : ConnEnd}
    (he' : (sideStep X Y op).1.conn.get c = some e') (ho' : e'.state = .opened)
    (hnew : ∀ e, X.conn.get c = some e → e.state ≠ .opened) : ConnOpenWitness Y op.body c e' :=
  (conn_open_cases (Prod.eta _).symm he' ho').elim (fun h0 => absurd ho' (hnew _ h0)) (·.1)

theorem close_confirm_step {X Y : ChainState} {env : Env} {p c : Id} {app : AppV1} {r : String}
    (h : (sideStep X Y ⟨env, .chanCloseConfirm p c app⟩).2 = .ok r) :
    ∃ ch b hop conn, X.chan.get (p, c) = some ch ∧ Y.chan.get (ch.cpPort, ch.cpChan) = some b ∧ b.state = .closed ∧
      b.ordering = ch.ordering ∧ b.cpPort = p ∧ b.cpChan = c ∧ b.version = ch.version ∧
      ch.hops.head? = some hop ∧ X.conn.get hop = some conn ∧ b.hops = [conn.cpConn] := by
  have h' : sideStep X Y ⟨env, .chanCloseConfirm p c app⟩ = (_, .ok r) := Prod.ext rfl h
  unfold sideStep honestEnv at h'
  obtain ⟨ch, hop, conn, _, hch, _, hgc, hv, _⟩ := (chanCloseConfirm_cases h').ok rfl
  obtain ⟨hh, hcg⟩ := getConn_ok hgc
  have hy : conn.cpPrefix = storePrefix ∧
      Y.chan.get (ch.cpPort, ch.cpChan) = some ⟨.closed, ch.ordering, p, c, [conn.cpConn], ch.version⟩ := by
    simpa [honestV1, expectedChan, hch, hgc] using verify_ok_v hv
  exact ⟨ch, _, hop, conn, hch, hy.2, rfl, rfl, rfl, rfl, rfl, hh, hcg, rfl⟩

structure PInv (w : World) : Prop where
  ga : Good w.a
  gb : Good w.b
  ab : Agree w.a w.b
  ba : Agree w.b w.a

theorem Agree.init : Agree Chain.init Chain.init := by
  refine ⟨?_, ?_, ?_⟩
  · intro p c e he; simp [Chain.init] at he
  · intro c e he ho
    simp only [Chain.init, FMap.get_set, FMap.get_empty] at he
    split at he
    · cases he
      exact ⟨_, defaultIBCVersion, by simp [Chain.init], by simp, rfl, rfl, by simp_all, rfl, rfl, rfl⟩
    · cases he
  · intro c e he hs
    simp only [Chain.init, FMap.get_set, FMap.get_empty] at he
    split at he
    · cases he; cases hs
    · cases he

theorem PInv.init : PInv World.init := ⟨⟨Inv.init, Inv3.init⟩, ⟨Inv.init, Inv3.init⟩, Agree.init, Agree.init⟩

theorem PInv.pstep {w : World} (h : PInv w) (side : Bool) (op : Op) : PInv (pstep w side op) := by
  unfold Chain.pstep
  cases side with
  | true =>
    simp only [if_true]
    have ht : Tr w.b (sideStep w.b w.a op).1 := tr_step _ _
    exact ⟨h.ga, h.gb.step ht, h.ab.other_step h.gb ht, h.ba.me_step h.gb op⟩
  | false =>
    simp only [Bool.false_eq_true, if_false]
    have ht : Tr w.a (sideStep w.a w.b op).1 := tr_step _ _
    exact ⟨h.ga.step ht, h.gb, h.ab.me_step h.ga op, h.ba.other_step h.ga ht⟩

theorem pinv_prun {w : World} (h : PInv w) (ops : List (Bool × Op)) : PInv (prun w ops) := by
  induction ops generalizing w with
  | nil => exact h
  | cons x ops ih =>
    obtain ⟨side, op⟩ := x
    unfold prun
    exact ih (h.pstep side op)

theorem pinv_prun_init (ops : List (Bool × Op)) : PInv (prun World.init ops) := pinv_prun PInv.init ops

end IbcVerif.Chain

/-! small concrete two-chain states for the non-vacuity examples -/
namespace IbcVerif.Chain.Ex
/-- an OPEN connection end; `"696263"` is `storePrefix`, the commitment prefix "ibc" of both chains -/
def connX : ConnEnd := ⟨.opened, "99-verif-0", "99-verif-0", "connection-0", "696263", [defaultIBCVersion], 0⟩
/-- chain with an INIT channel end over an OPEN connection -/
def wInit : ChainState := { Chain.init with
  chan := FMap.empty.set ("mock", "channel-0") ⟨.init, .unordered, "mock", "", ["connection-0"], "v"⟩,
  conn := Chain.init.conn.set "connection-0" connX, nextChanSeq := 1, nextConnSeq := 1, nextClientSeq := 1 }
/-- its counterparty holding the matching TRYOPEN end -/
def wTry : ChainState := { Chain.init with
  chan := FMap.empty.set ("mock", "channel-0") ⟨.tryopen, .unordered, "mock", "channel-0", ["connection-0"], "v"⟩,
  conn := Chain.init.conn.set "connection-0" connX, nextChanSeq := 1, nextConnSeq := 1, nextClientSeq := 1 }
def ackBody : Body := .chanOpenAck "mock" "channel-0" "channel-0" "v" ⟨1, false, .ok, "aa", none⟩
end IbcVerif.Chain.Ex
