/-
  Go's indexing and slicing primitives (`G.index`, `G.slice`, …) inside and outside their bounds, `G.NoPanic` through
  `if` and bind, `HasAt` (a buffer holds given bytes at an index), and the 8-byte big-endian encoding.
-/
import IbcVerif.Model.Bytes
import IbcVerif.Model.Panic
namespace IbcVerif

namespace G
variable {α : Type}

theorem noPanic_ite {c : Prop} [Decidable c] {x y : G α} (hx : c → NoPanic x) (hy : ¬ c → NoPanic y) :
    NoPanic (if c then x else y) := by
  split
  · exact hx ‹_›
  · exact hy ‹_›

theorem noPanic_ite_err {c : Prop} [Decidable c] {e : String} {y : G α} (hy : ¬ c → NoPanic y) :
    NoPanic (if c then .err e else y) :=
  noPanic_ite (fun _ => noPanic_err e) hy

theorem noPanic_iff_of_panics {c : Prop} [Decidable c] {x : G α} (h1 : c → NoPanic x) (h2 : ¬ c → ∃ m, x = .panic m) :
    NoPanic x ↔ c :=
  ⟨fun h => Decidable.byContradiction fun hc => let ⟨m, hm⟩ := h2 hc; h m hm, h1⟩

theorem bind_eq_ok {β : Type} {x : G α} {f : α → G β} {b : β} (h : (x >>= f) = .ok b) : ∃ a, x = .ok a ∧ f a = .ok b := by
  cases x with
  | ok a => exact ⟨a, rfl, h⟩
  | err e => cases h
  | panic m => cases h

theorem ite_err_eq_ok {c : Prop} [Decidable c] {e : String} {y : G α} {a : α} (h : (if c then .err e else y) = .ok a) :
    ¬ c ∧ y = .ok a := by
  by_cases hc : c
  · rw [if_pos hc] at h; cases h
  · exact ⟨hc, (if_neg hc).symm.trans h⟩

theorem index_ok (l : List α) (i : Nat) (h : i < l.length) : index l i = .ok l[i] := by
  simp [index, h]

theorem index_panic (l : List α) (i : Nat) (h : ¬ i < l.length) : ∃ m, index l i = .panic m := by
  simp [index, List.getElem?_eq_none (Nat.le_of_not_lt h)]

theorem sliceFrom_panic (l : List α) (lo : Nat) (h : ¬ lo ≤ l.length) : ∃ m, sliceFrom l lo = .panic m :=
  ⟨_, if_neg h⟩

theorem slice_ok (l : List α) (lo hi : Nat) (h : lo ≤ hi) (h' : hi ≤ l.length) :
    slice l lo hi = .ok ((l.take hi).drop lo) := if_pos ⟨h, h'⟩

theorem sliceFrom_ok (l : List α) (lo : Nat) (h : lo ≤ l.length) : sliceFrom l lo = .ok (l.drop lo) := if_pos h

theorem sliceTo_ok (l : List α) (hi : Nat) (h : hi ≤ l.length) : sliceTo l hi = .ok (l.take hi) := if_pos h

theorem noPanic_index {β : Type} {l : List α} {i : Nat} {f : α → G β} (h : i < l.length) (hf : NoPanic (f l[i])) :
    NoPanic (index l i >>= f) := by
  rw [index_ok l i h]; exact hf

theorem noPanic_slice {β : Type} {l : List α} {lo hi : Nat} {f : List α → G β} (h : lo ≤ hi) (h' : hi ≤ l.length)
    (hf : NoPanic (f ((l.take hi).drop lo))) : NoPanic (slice l lo hi >>= f) := by
  rw [slice_ok l lo hi h h']; exact hf

theorem noPanic_sliceFrom {β : Type} {l : List α} {lo : Nat} {f : List α → G β} (h : lo ≤ l.length)
    (hf : NoPanic (f (l.drop lo))) : NoPanic (sliceFrom l lo >>= f) := by
  rw [sliceFrom_ok l lo h]; exact hf

theorem sliceFrom_append (A B : List α) : sliceFrom (A ++ B) A.length = .ok B := by
  rw [sliceFrom_ok _ _ (by simp), List.drop_left]

end G

/-- the buffer `d` holds `x` at index `i` -/
def HasAt {α : Type} (d : List α) (i : Nat) (x : List α) : Prop :=
  ∃ pre post, d = pre ++ (x ++ post) ∧ pre.length = i

namespace HasAt
variable {α : Type} {d x a b : List α} {i : Nat}

theorem mid (pre x post : List α) : HasAt (pre ++ (x ++ post)) pre.length x := ⟨pre, post, rfl, rfl⟩

theorem zero (x post : List α) : HasAt (x ++ post) 0 x := mid [] x post

theorem self (x : List α) : HasAt x 0 x := ⟨[], [], (List.append_nil x).symm, rfl⟩

theorem left : HasAt d i (a ++ b) → HasAt d i a
  | ⟨pre, post, hd, hi⟩ => ⟨pre, b ++ post, by rw [hd, List.append_assoc], hi⟩

theorem right : HasAt d i (a ++ b) → HasAt d (i + a.length) b
  | ⟨pre, post, hd, hi⟩ => ⟨pre ++ a, post, by rw [hd, List.append_assoc, List.append_assoc], by rw [List.length_append, hi]⟩

theorem le : HasAt d i x → i + x.length ≤ d.length
  | ⟨pre, post, hd, hi⟩ => by rw [hd, ← hi]; simp only [List.length_append]; omega

theorem slice : HasAt d i x → ∀ hi, hi = i + x.length → G.slice d i hi = .ok x
  | ⟨pre, post, hd, hi⟩, _, rfl => by
    rw [hd, ← hi, G.slice_ok _ _ _ (by omega) (by simp), ← List.append_assoc, List.take_append_of_le_length (by simp),
      List.take_of_length_le (by simp), List.drop_left]

theorem index {c : α} : HasAt d i (c :: x) → G.index d i = .ok c
  | ⟨pre, post, hd, hi⟩ => by rw [hd, ← hi]; simp [G.index]

theorem drop {j : Nat} : HasAt d (j + i) x → HasAt (d.drop j) i x
  | ⟨pre, post, hd, hi⟩ => ⟨pre.drop j, post, by
      rw [hd, List.drop_append_of_le_length (by omega)], by rw [List.length_drop, hi]; omega⟩

end HasAt

theorem be64_length (n : Nat) : (be64 n).length = 8 := rfl

theorem mod_two_pow_add_eight (n k : Nat) : n % 2 ^ (k + 8) = n / 2 ^ k % 256 * 2 ^ k + n % 2 ^ k := by
  rw [Nat.pow_add, Nat.mod_mul, Nat.add_comm, Nat.mul_comm]

-- every exponent is ascribed `Nat`, so that each `2^k` is elaborated on its own and not by unification across the sum
theorem be64_sum (n : Nat) (h : n < 2^64) :
    n / 2^(56:Nat) % 256 * 2^(56:Nat) + n / 2^(48:Nat) % 256 * 2^(48:Nat) + n / 2^(40:Nat) % 256 * 2^(40:Nat) +
    n / 2^(32:Nat) % 256 * 2^(32:Nat) + n / 2^(24:Nat) % 256 * 2^(24:Nat) + n / 2^(16:Nat) % 256 * 2^(16:Nat) +
    n / 2^(8:Nat) % 256 * 2^(8:Nat) + n % 256 = n := by
  have e := mod_two_pow_add_eight n
  have hn : n % 2 ^ (56 + 8) = n := Nat.mod_eq_of_lt h
  rw [e 56, e 48, e 40, e 32, e 24, e 16, e 8] at hn
  rw [← Nat.add_assoc, ← Nat.add_assoc, ← Nat.add_assoc, ← Nat.add_assoc, ← Nat.add_assoc, ← Nat.add_assoc] at hn
  exact hn

theorem unbe64_be64 (n : Nat) (h : n < 2^64) : unbe64 (be64 n) = some n := by
  unfold be64 unbe64
  simp only [UInt8.toNat_ofNat']
  congr 1
  have := be64_sum n h
  simp only [show (2:Nat)^8 = 256 by decide, Nat.mod_mod] at *
  exact this

theorem be64_inj {a b : Nat} (ha : a < 2^64) (hb : b < 2^64) (h : be64 a = be64 b) : a = b := by
  have := congrArg unbe64 h
  rw [unbe64_be64 a ha, unbe64_be64 b hb] at this
  exact Option.some.inj this

/-- blocks of one positive length are determined by their concatenation (the 32-byte hashes of a packet commitment,
    Lemmas/Commit.lean) -/
theorem flatten_inj_of_length {α : Type} (n : Nat) (hn : 0 < n) :
    ∀ (l1 l2 : List (List α)), (∀ x ∈ l1, x.length = n) → (∀ x ∈ l2, x.length = n) →
      l1.flatten = l2.flatten → l1 = l2
  | [], [], _, _, _ => rfl
  | [], b :: bs, _, h2, h => by
      have hb := h2 b List.mem_cons_self
      rw [(List.nil_eq_append_iff.1 h).1] at hb
      exact absurd hb (Nat.ne_of_lt hn)
  | a :: as, [], h1, _, h => by
      have ha := h1 a List.mem_cons_self
      rw [(List.append_eq_nil_iff.1 h).1] at ha
      exact absurd ha (Nat.ne_of_lt hn)
  | a :: as, b :: bs, h1, h2, h => by
      have ha := h1 a List.mem_cons_self
      have hb := h2 b List.mem_cons_self
      simp only [List.flatten_cons] at h
      have ⟨e1, e2⟩ := List.append_inj h (by rw [ha, hb])
      have := flatten_inj_of_length n hn as bs (fun x hx => h1 x (List.mem_cons_of_mem _ hx))
        (fun x hx => h2 x (List.mem_cons_of_mem _ hx)) e2
      rw [e1, this]

end IbcVerif
