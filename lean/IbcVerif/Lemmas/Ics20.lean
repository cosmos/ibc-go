/-
  Effect lemmas for the ICS-20 model (`Model/Ics20.lean`, `Model/Bank.lean`): what a successful
  primitive / handler does to balances, supply, tracked escrow and the denomination store.
-/
import IbcVerif.Model.Ics20
import IbcVerif.Lemmas.Except
import Mathlib.Tactic.SplitIfs
namespace IbcVerif.Ics20
open IbcVerif IbcVerif.Xfer

/-- balances after moving `n` of coin `k` from `f` to `t` (the SDK's sub-then-add order) -/
def moveBal (bal : Addr → Str → Nat) (f t : Addr) (k : Str) (n : Nat) (a : Addr) (x : Str) : Nat :=
  if x = k then
    (if a = t then (if a = f then bal a x - n else bal a x) + n
     else (if a = f then bal a x - n else bal a x))
  else bal a x

/-- A covered move takes `n` of coin `k` from `f` and gives it to `t`, as one equation over `Nat`:
    with it, sums of balances over several moves are linear arithmetic, without cases on the account. -/
theorem moveBal_add {bal : Addr → Str → Nat} {f t : Addr} {k : Str} {n : Nat} (h : n ≤ bal f k) (a : Addr) (x : Str) :
    moveBal bal f t k n a x + (if x = k ∧ a = f then n else 0) =
      bal a x + (if x = k ∧ a = t then n else 0) := by
  unfold moveBal
  by_cases hx : x = k
  · subst hx
    by_cases hf : a = f <;> by_cases ht : a = t <;> (try subst hf) <;> (try subst ht) <;>
      simp only [*, and_self, and_false, if_true, if_false] <;> omega
  · simp only [hx, false_and, if_false]

theorem moveBal_other {bal : Addr → Str → Nat} {f t a : Addr} (hf : a ≠ f) (ht : a ≠ t) (k : Str) (n : Nat) (x : Str) :
    moveBal bal f t k n a x = bal a x := by
  simp [moveBal, hf, ht]

theorem credit_add (c : Prop) [Decidable c] (b n : Nat) : (if c then b + n else b) = b + if c then n else 0 := by
  split_ifs <;> rfl

theorem debit_add {bal : Addr → Str → Nat} {s : Addr} {k : Str} {n : Nat} (h : n ≤ bal s k) (a : Addr) (x : Str) :
    (if x = k ∧ a = s then bal a x - n else bal a x) + (if x = k ∧ a = s then n else 0) = bal a x := by
  split_ifs with hc
  · obtain ⟨rfl, rfl⟩ := hc; omega
  · rfl

theorem moveBal_lt {bal : Addr → Str → Nat} {f t : Addr} {k : Str} {n : Nat} {a : Addr} {x : Str}
    (h : moveBal bal f t k n a x < bal a x) : a = f ∧ x = k := by
  unfold moveBal at h
  by_cases hx : x = k
  · by_cases hf : a = f
    · exact ⟨hf, hx⟩
    · simp only [if_pos hx, if_neg hf] at h; split_ifs at h <;> omega
  · rw [if_neg hx] at h; omega

theorem moveBal_gt {bal : Addr → Str → Nat} {f t : Addr} {k : Str} {n : Nat} {a : Addr} {x : Str}
    (h : bal a x < moveBal bal f t k n a x) : a = t ∧ x = k := by
  unfold moveBal at h
  by_cases hx : x = k
  · by_cases ht : a = t
    · exact ⟨ht, hx⟩
    · simp only [if_pos hx, if_neg ht] at h; split_ifs at h <;> omega
  · rw [if_neg hx] at h; omega

theorem Bank.send_some {b b' : Bank} {f t : Addr} {d : Str} {n : Nat} (h : b.send f t d n = some b') :
    n ≤ b.bal f d ∧ b'.supply = b.supply ∧ ∀ a x, b'.bal a x = moveBal b.bal f t d n a x := by
  unfold Bank.send at h
  split at h
  · cases h
  · cases h
    refine ⟨by omega, rfl, fun a x => ?_⟩
    simp only [Bank.setBal, moveBal]
    by_cases hx : x = d
    · subst hx
      by_cases ht : a = t <;> by_cases hf : a = f <;> (try subst ht) <;> (try subst hf) <;> simp [*]
    · simp [hx]

theorem Bank.send_none {b : Bank} {f t : Addr} {d : Str} {n : Nat} :
    b.send f t d n = none ↔ b.bal f d < n := by
  unfold Bank.send
  split <;> simp_all

theorem Bank.send_isSome {b : Bank} {f t : Addr} {d : Str} {n : Nat} (h : n ≤ b.bal f d) :
    ∃ b', b.send f t d n = some b' := by
  unfold Bank.send
  split
  · omega
  · exact ⟨_, rfl⟩

theorem Bank.mint_bal (b : Bank) (m : Addr) (d : Str) (n : Nat) (a : Addr) (x : Str) :
    (b.mint m d n).bal a x = b.bal a x + if x = d ∧ a = m then n else 0 := by
  simp only [Bank.mint, Bank.setBal, Bank.setSupply]
  split_ifs with h h' h'
  · rw [h.1, h.2]
  · exact absurd h.symm h'
  · exact absurd h'.symm h
  · rfl

theorem Bank.mint_supply (b : Bank) (m : Addr) (d : Str) (n : Nat) (x : Str) :
    (b.mint m d n).supply x = if x = d then b.supply x + n else b.supply x := by
  simp only [Bank.mint, Bank.setBal, Bank.setSupply]
  split_ifs with h
  · rw [h]
  · rfl

theorem Bank.burn_some {b b' : Bank} {m : Addr} {d : Str} {n : Nat} (h : b.burn m d n = some b') :
    n ≤ b.bal m d ∧ n ≤ b.supply d ∧
    (∀ a x, b'.bal a x = if x = d ∧ a = m then b.bal a x - n else b.bal a x) ∧
    (∀ x, b'.supply x = if x = d then b.supply x - n else b.supply x) := by
  unfold Bank.burn at h
  split at h
  · cases h
  · cases h
    refine ⟨by omega, by omega, fun a x => ?_, fun x => ?_⟩ <;> simp only [Bank.setBal, Bank.setSupply]
    · split_ifs with h1 h2 h2
      · rw [h1.1, h1.2]
      · exact absurd h1.symm h2
      · exact absurd h2.symm h1
      · rfl
    · split_ifs with h1
      · rw [h1]
      · rfl

/-- `MintCoins` to the module account followed by `SendCoins` module → `r`: a credit of `r` and of the
    supply; the module account is a pass-through -/
theorem Bank.mint_send {b b' : Bank} {m r : Addr} {k : Str} {n : Nat} (h : (b.mint m k n).send m r k n = some b') :
    (∀ a x, b'.bal a x = if x = k ∧ a = r then b.bal a x + n else b.bal a x) ∧
    (∀ x, b'.supply x = if x = k then b.supply x + n else b.supply x) := by
  obtain ⟨hn, hsup, hbal⟩ := Bank.send_some h
  refine ⟨fun a x => ?_, fun x => by rw [hsup, Bank.mint_supply]⟩
  have := moveBal_add (t := r) hn a x
  rw [← hbal, Bank.mint_bal] at this
  split_ifs with hr
  · rw [if_pos hr] at this; omega
  · rw [if_neg hr] at this; omega

/-- `SendCoins` `s` → module account followed by `BurnCoins` there: a debit of `s` and of the supply -/
theorem Bank.send_burn {b b1 b' : Bank} {s m : Addr} {k : Str} {n : Nat} (h : b.send s m k n = some b1)
    (hb : b1.burn m k n = some b') :
    n ≤ b.bal s k ∧ n ≤ b.supply k ∧
    (∀ a x, b'.bal a x = if x = k ∧ a = s then b.bal a x - n else b.bal a x) ∧
    (∀ x, b'.supply x = if x = k then b.supply x - n else b.supply x) := by
  obtain ⟨hn, hsup, hbal⟩ := Bank.send_some h
  obtain ⟨_, hsn, hbal', hsup'⟩ := Bank.burn_some hb
  refine ⟨hn, hsup ▸ hsn, fun a x => ?_, fun x => by rw [hsup', hsup]⟩
  have := moveBal_add (t := m) hn a x
  rw [← hbal] at this
  rw [hbal']
  split_ifs with hm hs hs
  · rw [if_pos hm, if_pos hs] at this; omega
  · rw [if_pos hm, if_neg hs] at this; omega
  · rw [if_neg hm, if_pos hs] at this; omega
  · rw [if_neg hm, if_neg hs] at this; omega

theorem totalEscrow_set (ch : Chain) (d : Str) (g : Nat → Nat) (x : Str) :
    (setTotalEscrow ch d (g (ch.totalEscrow d))).totalEscrow x =
      if x = d then g (ch.totalEscrow x) else ch.totalEscrow x := by
  simp only [setTotalEscrow]
  split_ifs with hx
  · rw [hx]
  · rfl

theorem escrowCoin_ok {ch ch' : Chain} {s e : Addr} {d : Str} {n : Nat} (h : escrowCoin ch s e d n = .ok ch') :
    ∃ b', ch.bank.send s e d n = some b' ∧ ch'.bank = b' ∧
      (∀ x, ch'.totalEscrow x = if x = d then ch.totalEscrow x + n else ch.totalEscrow x) ∧
      ch'.denoms = ch.denoms ∧ ch'.sendEnabled = ch.sendEnabled ∧ ch'.recvEnabled = ch.recvEnabled := by
  unfold escrowCoin at h
  split at h
  · cases h
  · rename_i b hb
    cases h
    exact ⟨b, hb, rfl, totalEscrow_set _ d (· + n), rfl, rfl, rfl⟩

theorem unescrowCoin_ok {ch ch' : Chain} {e r : Addr} {d : Str} {n : Nat} (h : unescrowCoin ch e r d n = .ok ch') :
    ∃ b', ch.bank.send e r d n = some b' ∧ ch'.bank = b' ∧ n ≤ ch.totalEscrow d ∧
      (∀ x, ch'.totalEscrow x = if x = d then ch.totalEscrow x - n else ch.totalEscrow x) ∧
      ch'.denoms = ch.denoms ∧ ch'.sendEnabled = ch.sendEnabled ∧ ch'.recvEnabled = ch.recvEnabled := by
  unfold unescrowCoin at h
  split at h
  · cases h
  · rename_i b hb
    split at h
    · cases h
    · cases h
      exact ⟨b, hb, rfl, by omega, totalEscrow_set _ d (· - n), rfl, rfl, rfl⟩

theorem validatePacketData_none {d : PacketData} :
    validatePacketData d = none ↔
      d.amount ≠ 0 ∧ goBlank d.sender = false ∧ goBlank d.receiver = false ∧ (extract d.denom).validate = none := by
  unfold validatePacketData
  by_cases h0 : d.amount = 0
  · simp [h0]
  · cases hs : goBlank d.sender
    · cases hr : goBlank d.receiver
      · cases hv : (extract d.denom).validate with
        | none => simp [h0]
        | some e => cases e <;> simp [h0]
      · simp [h0]
    · simp [h0]

theorem mintVoucher_ok {cfg : Config} {ch ch' : Chain} {d' : Denom} {coin : Str} {receiver : Addr} {amt : Nat}
    (h : mintVoucher cfg ch d' coin receiver amt = .ok ch') :
    (∃ b', (ch.bank.mint cfg.moduleAddr coin amt).send cfg.moduleAddr receiver coin amt = some b' ∧ ch'.bank = b') ∧
    ch'.totalEscrow = ch.totalEscrow ∧ ch'.sendEnabled = ch.sendEnabled ∧ ch'.recvEnabled = ch.recvEnabled ∧
    (ch'.denoms = ch.denoms ∨ (hasDenom cfg ch (cfg.hashHex d'.path) = false ∧ ch'.denoms = (setDenom cfg ch d').denoms)) := by
  unfold mintVoucher at h
  by_cases hh : hasDenom cfg ch (cfg.hashHex d'.path) = true
  · simp only [hh, if_true] at h
    split at h
    · cases h
    · rename_i b' hb'
      cases h
      exact ⟨⟨b', hb', rfl⟩, rfl, rfl, rfl, Or.inl rfl⟩
  · simp only [hh, if_false, Bool.false_eq_true] at h
    split at h
    · cases h
    · rename_i b' hb'
      cases h
      exact ⟨⟨b', by simpa [setDenom] using hb', rfl⟩, rfl, rfl, rfl, Or.inr ⟨by simpa using hh, rfl⟩⟩

theorem recvCoin_unwind {H : Str → Str} {sp sc dp dc s : Str} (h : (extract s).hasPrefix sp sc = true) :
    ics20RecvCoinDenom H sp sc dp dc s = Denom.ibcDenom H ⟨(extract s).trace.tail, (extract s).base⟩ := by
  simp [ics20RecvCoinDenom, h]

theorem recvCoin_mint {H : Str → Str} {sp sc dp dc s : Str} (h : (extract s).hasPrefix sp sc = false) :
    ics20RecvCoinDenom H sp sc dp dc s = Denom.ibcDenom H ⟨⟨dp, dc⟩ :: (extract s).trace, (extract s).base⟩ := by
  simp [ics20RecvCoinDenom, h]

theorem sendTransfer_effect {cfg : Config} {c : Nat} {ch ch' : Chain} {port chan : Str} {tok : Denom} {n : Nat}
    {s : Addr} (h : sendTransfer cfg c ch port chan tok n s = .ok ch') :
    ch'.denoms = ch.denoms ∧ ch'.sendEnabled = ch.sendEnabled ∧ ch'.recvEnabled = ch.recvEnabled ∧
    n ≤ ch.bank.bal s (tok.ibcDenom cfg.hashHex) ∧
    ((tok.hasPrefix port chan = true ∧ n ≤ ch.bank.supply (tok.ibcDenom cfg.hashHex) ∧
      (∀ a x, ch'.bank.bal a x = if x = tok.ibcDenom cfg.hashHex ∧ a = s then ch.bank.bal a x - n else ch.bank.bal a x) ∧
      (∀ x, ch'.bank.supply x = if x = tok.ibcDenom cfg.hashHex then ch.bank.supply x - n else ch.bank.supply x) ∧
      ch'.totalEscrow = ch.totalEscrow) ∨
     (tok.hasPrefix port chan = false ∧
      (∀ a x, ch'.bank.bal a x = moveBal ch.bank.bal s (cfg.escrowAddr port chan) (tok.ibcDenom cfg.hashHex) n a x) ∧
      ch'.bank.supply = ch.bank.supply ∧
      (∀ x, ch'.totalEscrow x = if x = tok.ibcDenom cfg.hashHex then ch.totalEscrow x + n else ch.totalEscrow x))) := by
  unfold sendTransfer at h
  simp only [error_else_eq_ok] at h
  obtain ⟨_, _, _, h⟩ := h
  simp only [ics20SendCoinDenom] at h
  cases hp : tok.hasPrefix port chan <;> simp only [hp, Bool.false_eq_true, if_false, if_true] at h
  · obtain ⟨b', hs, hbk, hte, hd, hse, hre⟩ := escrowCoin_ok h
    obtain ⟨hn, hsup, hbal⟩ := Bank.send_some hs
    exact ⟨hd, hse, hre, hn, Or.inr ⟨rfl, hbk ▸ hbal, hbk ▸ hsup, hte⟩⟩
  · cases hb : ch.bank.send s cfg.moduleAddr (tok.ibcDenom cfg.hashHex) n <;> simp only [hb] at h
    case none => cases h
    rename_i b
    cases hb' : b.burn cfg.moduleAddr (tok.ibcDenom cfg.hashHex) n <;> simp only [hb'] at h
    case none => cases h
    cases h
    obtain ⟨hn, hsn, hbal, hsup⟩ := Bank.send_burn hb hb'
    exact ⟨rfl, rfl, rfl, hn, Or.inl ⟨rfl, hsn, hbal, hsup, rfl⟩⟩

theorem refund_effect {cfg : Config} {c : Nat} {ch ch' : Chain} {sp sc : Str} {data : PacketData}
    (h : refundPacketTokens cfg c ch sp sc data = .ok ch') :
    ∃ s, cfg.decode data.sender = some s ∧
    ch'.denoms = ch.denoms ∧ ch'.sendEnabled = ch.sendEnabled ∧ ch'.recvEnabled = ch.recvEnabled ∧
    (((extract data.denom).hasPrefix sp sc = true ∧
      (∀ a x, ch'.bank.bal a x = if x = (extract data.denom).ibcDenom cfg.hashHex ∧ a = s then ch.bank.bal a x + data.amount else ch.bank.bal a x) ∧
      (∀ x, ch'.bank.supply x = if x = (extract data.denom).ibcDenom cfg.hashHex then ch.bank.supply x + data.amount else ch.bank.supply x) ∧
      ch'.totalEscrow = ch.totalEscrow) ∨
     ((extract data.denom).hasPrefix sp sc = false ∧
      data.amount ≤ ch.bank.bal (cfg.escrowAddr sp sc) ((extract data.denom).ibcDenom cfg.hashHex) ∧
      data.amount ≤ ch.totalEscrow ((extract data.denom).ibcDenom cfg.hashHex) ∧
      (∀ a x, ch'.bank.bal a x = moveBal ch.bank.bal (cfg.escrowAddr sp sc) s ((extract data.denom).ibcDenom cfg.hashHex) data.amount a x) ∧
      ch'.bank.supply = ch.bank.supply ∧
      (∀ x, ch'.totalEscrow x = if x = (extract data.denom).ibcDenom cfg.hashHex then ch.totalEscrow x - data.amount else ch.totalEscrow x))) := by
  unfold refundPacketTokens at h
  cases hs : cfg.decode data.sender <;> simp only [hs, error_else_eq_ok] at h
  case none => cases h
  rename_i s
  obtain ⟨_, _, h⟩ := h
  refine ⟨s, rfl, ?_⟩
  cases hp : (extract data.denom).hasPrefix sp sc <;> simp only [hp, Bool.false_eq_true, if_false, if_true] at h
  · obtain ⟨b', hsend, hbk, hte, htot, hd, hse, hre⟩ := unescrowCoin_ok h
    obtain ⟨hn, hsup, hbal⟩ := Bank.send_some hsend
    exact ⟨hd, hse, hre, Or.inr ⟨rfl, hn, hte, hbk ▸ hbal, hbk ▸ hsup, htot⟩⟩
  · split at h
    · cases h
    · rename_i b' hsend
      cases h
      obtain ⟨hbal, hsup⟩ := Bank.mint_send hsend
      exact ⟨rfl, rfl, rfl, Or.inl ⟨rfl, hbal, hsup, rfl⟩⟩

theorem onRecvPacket_effect {cfg : Config} {c : Nat} {ch ch' : Chain} {data : PacketData} {sp sc dp dc : Str}
    (h : onRecvPacket cfg c ch data sp sc dp dc = .ok ch') :
    ∃ r, cfg.decode data.receiver = some r ∧ validatePacketData data = none ∧
    ch'.sendEnabled = ch.sendEnabled ∧ ch'.recvEnabled = ch.recvEnabled ∧
    (((extract data.denom).hasPrefix sp sc = true ∧ ch'.denoms = ch.denoms ∧
      data.amount ≤ ch.bank.bal (cfg.escrowAddr dp dc) (ics20RecvCoinDenom cfg.hashHex sp sc dp dc data.denom) ∧
      data.amount ≤ ch.totalEscrow (ics20RecvCoinDenom cfg.hashHex sp sc dp dc data.denom) ∧
      (∀ a x, ch'.bank.bal a x = moveBal ch.bank.bal (cfg.escrowAddr dp dc) r (ics20RecvCoinDenom cfg.hashHex sp sc dp dc data.denom) data.amount a x) ∧
      ch'.bank.supply = ch.bank.supply ∧
      (∀ x, ch'.totalEscrow x = if x = ics20RecvCoinDenom cfg.hashHex sp sc dp dc data.denom then ch.totalEscrow x - data.amount else ch.totalEscrow x)) ∨
     ((extract data.denom).hasPrefix sp sc = false ∧
      (ch'.denoms = ch.denoms ∨
        ch'.denoms = (setDenom cfg ch ⟨⟨dp, dc⟩ :: (extract data.denom).trace, (extract data.denom).base⟩).denoms) ∧
      (∀ a x, ch'.bank.bal a x = if x = ics20RecvCoinDenom cfg.hashHex sp sc dp dc data.denom ∧ a = r then ch.bank.bal a x + data.amount else ch.bank.bal a x) ∧
      (∀ x, ch'.bank.supply x = if x = ics20RecvCoinDenom cfg.hashHex sp sc dp dc data.denom then ch.bank.supply x + data.amount else ch.bank.supply x) ∧
      ch'.totalEscrow = ch.totalEscrow)) := by
  unfold onRecvPacket at h
  cases hv : validatePacketData data <;> simp only [hv, error_else_eq_ok] at h
  case some => cases h
  cases hd : cfg.decode data.receiver <;> simp only [hd, error_else_eq_ok] at h
  case none => cases h.2
  rename_i r
  obtain ⟨_, _, _, h⟩ := h
  refine ⟨r, rfl, rfl, ?_⟩
  cases hp : (extract data.denom).hasPrefix sp sc <;> simp only [hp, Bool.false_eq_true, if_false, if_true] at h
  · obtain ⟨⟨b', hsend, hbk⟩, htot, hse, hre, hden⟩ := mintVoucher_ok h
    obtain ⟨hbal, hsup⟩ := Bank.mint_send hsend
    exact ⟨hse, hre, Or.inr ⟨rfl, hden.imp_right And.right, hbk ▸ hbal, hbk ▸ hsup, htot⟩⟩
  · obtain ⟨b', hsend, hbk, hte, htot, hd, hse, hre⟩ := unescrowCoin_ok h
    obtain ⟨hn, hsup, hbal⟩ := Bank.send_some hsend
    exact ⟨hse, hre, Or.inl ⟨rfl, hd, hn, hte, hbk ▸ hbal, hbk ▸ hsup, htot⟩⟩

/-- **Frame law of a refund.**  `refundPacketTokens` for the packet data that `SendTransfer` sent (same
    channel end, same token, same amount, same sender) changes every balance, supply and tracked escrow
    total by the opposite of what the send changed, whatever happened in between (`ch1 ⇝ ch2`). -/
theorem refund_inverts_send {cfg : Config} {c : Nat} {ch ch1 ch2 ch3 : Chain} {sp sc : Str} {data : PacketData}
    {s : Addr} (hs : cfg.decode data.sender = some s)
    (hst : sendTransfer cfg c ch sp sc (extract data.denom) data.amount s = .ok ch1)
    (hr : refundPacketTokens cfg c ch2 sp sc data = .ok ch3) :
    (∀ a x, ch3.bank.bal a x + ch1.bank.bal a x = ch2.bank.bal a x + ch.bank.bal a x) ∧
    (∀ x, ch3.bank.supply x + ch1.bank.supply x = ch2.bank.supply x + ch.bank.supply x) ∧
    (∀ x, ch3.totalEscrow x + ch1.totalEscrow x = ch2.totalEscrow x + ch.totalEscrow x) := by
  obtain ⟨_, _, _, hn0, hbS⟩ := sendTransfer_effect hst
  obtain ⟨s', hs', _, _, _, hbR⟩ := refund_effect hr
  cases hs.symm.trans hs'
  rcases hbS with ⟨hpT, hsn, hb1, hs1, ht1⟩ | ⟨hpF, hb1, hs1, ht1⟩
  · -- burnt on the way out, minted back
    rcases hbR with ⟨_, hb3, hs3, ht3⟩ | ⟨hpF', _⟩
    · refine ⟨fun a x => ?_, fun x => ?_, fun x => by rw [ht1, ht3]⟩
      · have := debit_add hn0 a x
        rw [← hb1] at this
        rw [hb3, credit_add]; omega
      · rw [hs1, hs3]
        split_ifs with hh
        · subst hh; omega
        · rfl
    · rw [hpT] at hpF'; cases hpF'
  · -- escrowed on the way out, unescrowed back
    rcases hbR with ⟨hpT', _⟩ | ⟨_, hn2, hte2, hb3, hs3, ht3⟩
    · rw [hpF] at hpT'; cases hpT'
    · refine ⟨fun a x => ?_, fun x => by rw [hs1, hs3], fun x => ?_⟩
      · have := moveBal_add (t := s) hn2 a x
        have := moveBal_add (t := cfg.escrowAddr sp sc) hn0 a x
        rw [hb1, hb3]
        omega
      · rw [ht1, ht3]
        split_ifs with hh
        · subst hh; omega
        · rfl

theorem tokenFromCoin_ok {cfg : Config} {ch : Chain} {denom : Str} {tok : Denom}
    (h : tokenFromCoin cfg ch denom = .ok tok) :
    (ibcSlash.isPrefixOf denom = false ∧ tok = ⟨[], denom⟩) ∨ tok ∈ ch.denoms := by
  unfold tokenFromCoin stripPrefix at h
  split at h
  · rename_i hnone
    cases h
    split at hnone
    · cases hnone
    · exact Or.inl ⟨Bool.eq_false_iff.mpr ‹_›, rfl⟩
  · split at h
    · cases h
    · split at h
      · rename_i d hd
        cases h
        exact Or.inr (List.mem_of_find?_eq_some hd)
      · cases h

end IbcVerif.Ics20
