/-
  What one keeper operation can do to the consensus states of a client store (`StoreStep`), and
  preservation of timestamp monotonicity. Used by the property theorems of C20, C23 and C25.
-/
import IbcVerif.Lemmas.TmClient
namespace IbcVerif.Tm
open IbcVerif

/-- summary of one operation on a client store: client state is never lost, the latest height never
    decreases, a stored consensus state is kept unchanged or removed (and then lies below everything that
    remains), a newly stored height lies above a previously stored height or above the old latest height -/
structure StoreStep (now : Int) (s s' : Store) : Prop where
  client : s.client.isSome = true → s'.client.isSome = true
  latest : hk s.latestHeight ≤ hk s'.latestHeight
  kept : ∀ h c, s.getCons h = some c →
    s'.getCons h = some c ∨ (s'.getCons h = none ∧ ∀ h', s'.has h' → hk h < hk h')
  added : ∀ h, ¬ s.has h → s'.has h →
    (∃ t, s.has t ∧ hk t < hk h) ∨ (s.client.isSome = true ∧ hk s.latestHeight < hk h)
  expired : ∀ h c, s.getCons h = some c → s'.getCons h = none →
    ∃ cs, s.client = some cs ∧ isExpired cs.trustingPeriod c.ts now = true

theorem StoreStep.refl (now : Int) (s : Store) : StoreStep now s s :=
  ⟨fun h => h, Nat.le_refl _, fun _ _ e => .inl e, fun _ n h => absurd h n, fun _ _ e e' => nomatch e.symm.trans e'⟩

theorem latestHeight_of_client {s : Store} {cs : ClientState} (e : s.client = some cs) : s.latestHeight = cs.latest := by
  unfold Store.latestHeight; rw [e]

theorem storeStep_freeze (now : Int) (s : Store) (cs : ClientState) (hc : s.client = some cs) :
    StoreStep now s (freeze cs s) :=
  ⟨fun _ => rfl, Nat.le_of_eq (congrArg hk (latestHeight_of_client (cs := cs) hc)), fun _ _ e => .inl e, fun _ n h => absurd h n,
    fun _ _ e e' => nomatch e.symm.trans e'⟩

theorem storeStep_insert {now : Int} {s s1 : Store} (st : StoreStep now s s1) (cs' : ClientState) (h : Height)
    (c : ConsState) (ph : Height) (pt : Nat) (hnew : ¬ s1.has h) (hlat : hk s.latestHeight ≤ hk cs'.latest)
    (above : ∀ g cg, s.getCons g = some cg → s1.getCons g = none → hk g < hk h)
    (anchor : (∃ t, s.has t ∧ hk t < hk h) ∨ (s.client.isSome = true ∧ hk s.latestHeight < hk h)) :
    StoreStep now s ((({ s1 with client := some cs' }).setCons h c).setMeta h ph pt) := by
  refine ⟨fun _ => rfl, hlat, fun g cg e => ?_, fun g hn hh => ?_, fun g cg e en => ?_⟩
  · rw [getCons_insert]
    rcases st.kept g cg e with k | ⟨k, low⟩
    · exact .inl ((if_neg fun (eq : h = g) => hnew (eq ▸ has_of_getCons k)).trans k)
    · have lt := above g cg e k
      refine .inr ⟨(if_neg fun (eq : h = g) => by rw [eq] at lt; omega).trans k, fun h' hh' => ?_⟩
      rcases (has_insert _ h c ph pt h').mp hh' with eq | hin
      · exact eq ▸ lt
      · exact low h' hin
  · rcases (has_insert _ h c ph pt g).mp hh with eq | hin
    · exact eq ▸ anchor
    · exact st.added g hn hin
  · rw [getCons_insert] at en
    split at en
    · cases en
    · exact st.expired g cg e en

theorem storeStep_update (s : Store) (hs : StoreInv s) (now : Int) (self : Height) (hdr : Header) (valid : Bool) :
    StoreStep now s (updateStore s now self hdr valid).1 := by
  rcases updateStore_cases s hs now self hdr valid with ⟨e, _⟩ | ⟨cs, hc, _, hv, ⟨_, e⟩ | ⟨_, s1, _, pr, hcase⟩⟩
  · rw [e]; exact StoreStep.refl now s
  · rw [e]; exact storeStep_freeze now s cs hc
  · obtain ⟨c0, ht, _, _, _, hlt, _⟩ := (verifyHeader_none_iff s hdr valid).mp hv
    -- what pruning removed was the oldest height: it had expired, lies below the header's height (which is above
    -- its trusted height) and below everything that remains
    have pruned : ∀ h c, s.getCons h = some c → s1.getCons h = none →
        isExpired cs.trustingPeriod c.ts now = true ∧ hk h < hk hdr.height ∧ ∀ h', s1.has h' → hk h < hk h' := by
      intro h c e en
      rcases pr.kept h c e with k | ⟨_, ho, hexp⟩
      · rw [k] at en; cases en
      · refine ⟨hexp, by have := ho.2 _ (has_of_getCons ht); omega, fun h' hh' => ?_⟩
        have ne : hk h ≠ hk h' := fun eq => by rw [Store.has, ← hk_inj.mp eq, en] at hh'; cases hh'
        have := ho.2 h' (pruned_has pr hh')
        omega
    have st1 : StoreStep now s s1 :=
      ⟨fun h => pr.client ▸ h, by unfold Store.latestHeight; rw [pr.client]; exact Nat.le_refl _,
        fun h c e' => (pr.kept h c e').imp id fun k => ⟨k.1, (pruned h c e' k.1).2.2⟩,
        fun h hn hh => absurd (pruned_has pr hh) hn, fun h c e' en => ⟨cs, hc, (pruned h c e' en).1⟩⟩
    rcases hcase with ⟨_, e⟩ | ⟨hnew, e⟩ <;> rw [e]
    · exact st1
    · refine storeStep_insert st1 _ hdr.height hdr.cons self now.toNat hnew ?_ (fun g cg e en => (pruned g cg e en).2.1)
        (.inl ⟨hdr.trusted, has_of_getCons ht, hlt⟩)
      rw [latestHeight_of_client hc]
      split
      · exact Nat.le_of_lt ((gt_iff_hk hdr.height cs.latest).mp ‹_›)
      · exact Nat.le_refl _

theorem storeStep_misbehaviour (s : Store) (now : Int) (m : Misbehaviour) (v1 v2 : Bool) :
    StoreStep now s (misbehaviourStore s now m v1 v2).1 :=
  misbehaviourStore_fst now m v1 v2 (StoreStep.refl now s) (storeStep_freeze now s)

theorem WritesAbove.storeStep {s s' : Store} (h : WritesAbove s s') (now : Int) (hs : StoreInv s) :
    StoreStep now s s' := by
  rcases h with rfl | ⟨cs, cs', c, ph, pt, hc, hlt, rfl⟩
  · exact StoreStep.refl now _
  · have lat := latestHeight_of_client hc
    exact storeStep_insert (StoreStep.refl now s) cs' cs'.latest c ph pt (fun hh => by have := hs.below cs hc _ hh; omega)
      (lat ▸ Nat.le_of_lt hlt) (fun g cg e en => nomatch e.symm.trans en) (.inr ⟨by rw [hc]; rfl, lat ▸ hlt⟩)

theorem tsMono_le {s : Store} (hm : TsMono s) {h h' : Height} {c c' : ConsState} (e : s.getCons h = some c)
    (e' : s.getCons h' = some c') (le : hk h ≤ hk h') : c.ts ≤ c'.ts := by
  by_cases eq : hk h = hk h'
  · rw [hk_inj.mp eq, e'] at e; cases e; exact Int.le_refl _
  · exact Int.le_of_lt (hm h h' c c' e e' (by omega))

theorem storeStep_pruneAll (s : Store) (hs : StoreInv s) (hm : TsMono s) (now : Int) :
    StoreStep now s (pruneAllStore s now).1 := by
  unfold pruneAllStore
  cases hc : s.client with
  | none => exact StoreStep.refl now s
  | some cs =>
    have ⟨_, h2, h3⟩ := pruneAll_spec s hs.metaInv cs.trustingPeriod now
    show StoreStep now s (s.pruneAll cs.trustingPeriod now).1
    generalize (s.pruneAll cs.trustingPeriod now).1 = s' at h2 h3
    refine ⟨fun _ => by rw [h2, hc]; rfl, ?_, fun h c e => ?_, fun h hn hh => ?_, fun h c e en => ⟨cs, hc, ?_⟩⟩
    · unfold Store.latestHeight; rw [h2]; exact Nat.le_refl _
    · cases he : isExpired cs.trustingPeriod c.ts now with
      | false => exact .inl ((h3 h c).mpr ⟨e, he⟩)
      | true =>
        refine .inr ⟨?_, fun h' hh' => ?_⟩
        · refine Option.eq_none_iff_forall_ne_some.mpr fun c' hp => ?_
          obtain ⟨e', ne'⟩ := (h3 h c').mp hp
          rw [e] at e'; cases e'
          rw [he] at ne'; cases ne'
        · obtain ⟨c', hc'⟩ := getCons_of_has hh'
          obtain ⟨e', ne'⟩ := (h3 h' c').mp hc'
          -- h' has not expired and h has: were h' at or below h, its timestamp would be no later
          refine Nat.lt_of_not_le fun le => ?_
          have := tsMono_le hm e' e le
          have : isExpired cs.trustingPeriod c'.ts now = true := by rw [isExpired_iff] at he ⊢; omega
          rw [ne'] at this; cases this
    · obtain ⟨c', hc'⟩ := getCons_of_has hh
      exact absurd (has_of_getCons ((h3 h c').mp hc').1) hn
    · cases he : isExpired cs.trustingPeriod c.ts now with
      | true => rfl
      | false => rw [(h3 h c).mpr ⟨e, he⟩] at en; cases en

/-- `CheckForMisbehaviour` on a header: a different consensus state at a stored height, or a timestamp
    that is not strictly between those of the true stored neighbours -/
theorem checkHeaderMisbehaviour_iff (s : Store) (inv : MetaInv s) (hdr : Header) :
    checkHeaderMisbehaviour s hdr = true ↔
      (∃ c, s.getCons hdr.height = some c ∧ c ≠ hdr.cons) ∨
      (s.getCons hdr.height = none ∧
        ((∃ p c, IsPrev s hdr.height p ∧ s.getCons p = some c ∧ ¬ c.ts < hdr.ts) ∨
         (∃ n c, IsNext s hdr.height n ∧ s.getCons n = some c ∧ ¬ hdr.ts < c.ts))) := by
  unfold checkHeaderMisbehaviour
  cases hg : s.getCons hdr.height with
  | some c0 => simp
  | none =>
    simp only [reduceCtorEq, false_and, exists_false, false_or, true_and, Bool.or_eq_true]
    have P := match_neighbour (getPrev_iff s inv hdr.height).1 (fun p => !decide (p.ts < hdr.ts))
    have N := match_neighbour (getNext_iff s inv hdr.height).1 (fun n => !decide (n.ts > hdr.ts))
    simp only [Bool.not_eq_eq_eq_not, Bool.not_true, decide_eq_false_iff_not, gt_iff_lt] at P N
    exact or_congr P N

theorem tsMono_sub (s s' : Store) (sub : ∀ h c, s'.getCons h = some c → s.getCons h = some c) (hm : TsMono s) :
    TsMono s' :=
  fun h h' c c' e e' lt => hm h h' c c' (sub h c e) (sub h' c' e') lt

theorem neighbours_ok (s : Store) (inv : MetaInv s) (hdr : Header)
    (hchk : checkHeaderMisbehaviour s hdr = false) (hnew : s.getCons hdr.height = none) :
    (∀ p c, IsPrev s hdr.height p → s.getCons p = some c → c.ts < hdr.ts) ∧
    (∀ n c, IsNext s hdr.height n → s.getCons n = some c → hdr.ts < c.ts) := by
  have hn := mt (checkHeaderMisbehaviour_iff s inv hdr).mpr (by rw [hchk]; simp)
  simp only [not_or, not_and, not_exists, Decidable.not_not] at hn
  exact hn.2 hnew

theorem between_all (s : Store) (inv : MetaInv s) (hm : TsMono s) (hdr : Header)
    (hchk : checkHeaderMisbehaviour s hdr = false) (hnew : s.getCons hdr.height = none) :
    (∀ h c, s.getCons h = some c → hk h < hk hdr.height → c.ts < hdr.ts) ∧
    (∀ h c, s.getCons h = some c → hk hdr.height < hk h → hdr.ts < c.ts) := by
  have hn2 := neighbours_ok s inv hdr hchk hnew
  constructor
  · intro h c e lt
    rcases getPrev_eq s inv hdr.height with ⟨_, hno⟩ | ⟨p, hp, _⟩
    · exact absurd lt (hno h (has_of_getCons e))
    · obtain ⟨cp, hcp⟩ := getCons_of_has hp.1
      exact Int.lt_of_le_of_lt (tsMono_le hm e hcp (hp.2.2 h (has_of_getCons e) lt)) (hn2.1 p cp hp hcp)
  · intro h c e lt
    rcases getNext_eq s inv hdr.height with ⟨_, hno⟩ | ⟨n, hn, _⟩
    · exact absurd lt (hno h (has_of_getCons e))
    · obtain ⟨cn, hcn⟩ := getCons_of_has hn.1
      exact Int.lt_of_lt_of_le (hn2.2 n cn hn hcn) (tsMono_le hm hcn e (hn.2.2 h (has_of_getCons e) lt))

theorem tsMono_insert (s : Store) (hm : TsMono s) (x : Option ClientState) (hh : Height) (c : ConsState) (ph : Height) (pt : Nat)
    (below : ∀ h c0, s.getCons h = some c0 → hk h < hk hh → c0.ts < c.ts)
    (above : ∀ h c0, s.getCons h = some c0 → hk hh < hk h → c.ts < c0.ts) :
    TsMono ((({ s with client := x }).setCons hh c).setMeta hh ph pt) := by
  intro h h' c1 c2 e1 e2 lt
  rw [getCons_insert] at e1 e2
  by_cases a : hh = h <;> by_cases b : hh = h'
  · rw [← a, ← b] at lt; omega
  · rw [if_pos a] at e1; rw [if_neg b] at e2
    exact Option.some.inj e1 ▸ above h' c2 e2 (a ▸ lt)
  · rw [if_neg a] at e1; rw [if_pos b] at e2
    exact Option.some.inj e2 ▸ below h c1 e1 (b ▸ lt)
  · rw [if_neg a] at e1; rw [if_neg b] at e2
    exact hm h h' c1 c2 e1 e2 lt

theorem tsMono_above {s : Store} (hs : StoreInv s) (hm : TsMono s) {cs : ClientState} (hc : s.client = some cs)
    (x : Option ClientState) {h : Height} (hlt : hk cs.latest < hk h) {c : ConsState} (ph : Height) (pt : Nat)
    (hyp : ∀ h0 c0, s.getCons h0 = some c0 → c0.ts < c.ts) :
    TsMono ((({ s with client := x }).setCons h c).setMeta h ph pt) :=
  tsMono_insert s hm x h c ph pt (fun h0 c0 e0 _ => hyp h0 c0 e0) fun h0 c0 e0 lt => by
    have := hs.below cs hc h0 (has_of_getCons e0); omega

theorem tsMono_update (s : Store) (hs : StoreInv s) (hm : TsMono s) (now : Int) (self : Height) (hdr : Header) (valid : Bool) :
    TsMono (updateStore s now self hdr valid).1 := by
  rcases updateStore_cases s hs now self hdr valid with ⟨e, _⟩ | ⟨cs, hc, _, hv, ⟨_, e⟩ | ⟨hchk, s1, _, pr, hcase⟩⟩
  · rw [e]; exact hm
  · rw [e]; exact hm
  · have hm1 : TsMono s1 := tsMono_sub s s1 pr.sub hm
    rcases hcase with ⟨_, e⟩ | ⟨hnew, e⟩ <;> rw [e]
    · exact hm1
    · -- the height is new in s as well: it lies above the trusted height
      obtain ⟨c0, ht, _, _, _, hlt, _⟩ := (verifyHeader_none_iff s hdr valid).mp hv
      have hnew_s : s.getCons hdr.height = none := Option.eq_none_iff_forall_ne_some.mpr fun cx hg =>
        hnew (has_of_getCons (pruned_kept_above pr (has_of_getCons ht) hlt hg))
      have ⟨b1, b2⟩ := between_all s hs.metaInv hm hdr hchk hnew_s
      exact tsMono_insert s1 hm1 _ hdr.height hdr.cons self now.toNat
        (fun h c0 e0 lt => b1 h c0 (pr.sub h c0 e0) lt) (fun h c0 e0 lt => b2 h c0 (pr.sub h c0 e0) lt)

theorem tsMono_pruneAll (s : Store) (hs : StoreInv s) (hm : TsMono s) (now : Int) : TsMono (pruneAllStore s now).1 := by
  unfold pruneAllStore
  cases hc : s.client with
  | none => exact hm
  | some cs =>
    have ⟨_, _, h3⟩ := pruneAll_spec s hs.metaInv cs.trustingPeriod now
    exact tsMono_sub s _ (fun h c e => ((h3 h c).mp e).1) hm

theorem tsMono_init (cs : ClientState) (c : ConsState) (now : Int) (self : Height) : TsMono (initClient cs c now self) := by
  unfold initClient
  apply tsMono_insert Store.empty (fun _ _ _ _ e => nomatch e)
  · intro h c0 e; cases e
  · intro h c0 e; cases e

end IbcVerif.Tm
