/-
  Ghost-log invariants and the "in flight" sums used by the conservation theorems.
-/
import IbcVerif.Lemmas.Ics20Inv
namespace IbcVerif.Ics20
open IbcVerif IbcVerif.Xfer

/-- a sent packet whose tokens are neither delivered (successful receive) nor refunded (timeout, or
    acknowledged after a failed receive): its amount is still "in flight" -/
def pendingIn (recvd : List (Packet × Bool)) (acked timedOut : List Packet) (p : Packet) : Bool :=
  !(recvd.contains (p, true)) && !(timedOut.contains p) && !(acked.contains p && recvd.contains (p, false))

def pending (w : World) (p : Packet) : Bool := pendingIn w.recvd w.acked w.timedOut p

/-- total amount in flight over the packets selected by `sel` -/
def pendingSum (w : World) (sel : Packet → Bool) : Nat :=
  ((w.sent.filter fun p => sel p && pending w p).map fun p => p.data.amount).sum

structure LInv (w : World) : Prop where
  nodup : w.sent.Nodup
  recvd_sent : ∀ p b, (p, b) ∈ w.recvd → p ∈ w.sent
  acked_sent : ∀ p, p ∈ w.acked → p ∈ w.sent
  timedOut_sent : ∀ p, p ∈ w.timedOut → p ∈ w.sent
  recvd_unique : ∀ p, (p, true) ∈ w.recvd → (p, false) ∈ w.recvd → False
  acked_recvd : ∀ p, p ∈ w.acked → ∃ b, (p, b) ∈ w.recvd

theorem pending_fresh {w : World} (h : LInv w) {p : Packet} (hp : p ∉ w.sent) : pending w p = true := by
  have h1 : (p, true) ∉ w.recvd := fun hm => hp (h.recvd_sent p true hm)
  have h2 : p ∉ w.timedOut := fun hm => hp (h.timedOut_sent p hm)
  have h3 : p ∉ w.acked := fun hm => hp (h.acked_sent p hm)
  simp [pending, pendingIn, h1, h2, h3]

theorem sum_filter_flip {α : Type} [DecidableEq α] (l : List α) (f : α → Nat) (P Q : α → Bool) (p : α)
    (hnd : l.Nodup) (hp : p ∈ l) (hP : P p = true) (hQ : Q p = false)
    (h : ∀ x ∈ l, x ≠ p → P x = Q x) :
    ((l.filter P).map f).sum = ((l.filter Q).map f).sum + f p := by
  induction l with
  | nil => cases hp
  | cons x xs ih =>
    simp only [List.nodup_cons] at hnd
    by_cases hx : x = p
    · subst hx
      have hrest : xs.filter P = xs.filter Q :=
        List.filter_congr fun y hy => h y (List.mem_cons_of_mem _ hy) (fun e => hnd.1 (e ▸ hy))
      simp only [List.filter_cons, hP, hQ, if_true, Bool.false_eq_true, if_false, List.map_cons, List.sum_cons, hrest]
      omega
    · have ih' := ih hnd.2 ((List.mem_cons.mp hp).resolve_left (Ne.symm hx))
        (fun y hy => h y (List.mem_cons_of_mem _ hy))
      have hxx := h x List.mem_cons_self hx
      simp only [List.filter_cons, hxx]
      split
      · simp only [List.map_cons, List.sum_cons, ih']; omega
      · exact ih'

theorem pendingSum_cons {w w' : World} (p : Packet) (sel : Packet → Bool) (hl : LInv w) (hp : p ∉ w.sent)
    (hs : w'.sent = p :: w.sent) (hr : w'.recvd = w.recvd) (ha : w'.acked = w.acked) (ht : w'.timedOut = w.timedOut) :
    pendingSum w' sel = (if sel p then p.data.amount else 0) + pendingSum w sel := by
  have hpend : ∀ q, pending w' q = pending w q := by intro q; simp [pending, hr, ha, ht]
  have hpp := pending_fresh hl hp
  simp only [pendingSum, hs, hpend, List.filter_cons, hpp, Bool.and_true]
  split <;> simp

theorem pendingSum_same {w w' : World} (sel : Packet → Bool) (hs : w'.sent = w.sent)
    (h : ∀ q ∈ w.sent, pending w' q = pending w q) : pendingSum w' sel = pendingSum w sel := by
  simp only [pendingSum, hs]
  rw [List.filter_congr fun q hq => by rw [h q hq]]

theorem pendingSum_resolve {w w' : World} (p : Packet) (sel : Packet → Bool) (hl : LInv w) (hp : p ∈ w.sent)
    (hs : w'.sent = w.sent) (hwas : pending w p = true) (hnow : pending w' p = false)
    (h : ∀ q ∈ w.sent, q ≠ p → pending w' q = pending w q) :
    pendingSum w sel = pendingSum w' sel + (if sel p then p.data.amount else 0) := by
  simp only [pendingSum, hs]
  by_cases hsel : sel p = true
  · simp only [hsel, if_true]
    exact sum_filter_flip w.sent (fun q => q.data.amount) _ _ p hl.nodup hp (by simp [hsel, hwas]) (by simp [hnow])
      (fun q hq hne => by rw [h q hq hne])
  · simp only [hsel, Bool.false_eq_true, if_false, Nat.add_zero]
    rw [List.filter_congr]
    intro q hq
    by_cases hqp : q = p
    · subst hqp; simp [hsel]
    · rw [h q hq hqp]

theorem LInv.send {w : World} (hl : LInv w) {p : Packet} (hp : p ∉ w.sent) (c : Nat) (ch' : Chain) :
    LInv { w.setChain c ch' with sent := p :: w.sent } :=
  ⟨List.nodup_cons.mpr ⟨hp, hl.nodup⟩,
    fun q b hq => List.mem_cons_of_mem _ (hl.recvd_sent q b hq),
    fun q hq => List.mem_cons_of_mem _ (hl.acked_sent q hq),
    fun q hq => List.mem_cons_of_mem _ (hl.timedOut_sent q hq),
    hl.recvd_unique, hl.acked_recvd⟩

theorem linv_step {cfg : Config} {w : World} (hl : LInv w) (op : Op) (hg : Guard w op) :
    LInv (step cfg w op).1 := by
  have hs := stepped cfg w op
  generalize (step cfg w op).1 = w', (step cfg w op).2 = r at hs ⊢
  cases hs with
  | fail => exact hl
  | transfer _ ht =>
    obtain ⟨_, _, _, _, _, _, _, _, _, hc, _, hsc, _, _, hseq, _⟩ := transfer_ok ht
    exact hl.send (fun hm => hg _ hm ⟨hc, hsc, hseq⟩) _ _
  | sendV2 ht =>
    obtain ⟨_, _, _, _, _, hc, _, hsc, _, _, hseq, _⟩ := sendPacketV2_ok ht
    exact hl.send (fun hm => hg _ hm ⟨hc, hsc, hseq⟩) _ _
  | @recv p _ _ _ =>
    obtain ⟨hps, hnr, _⟩ := hg
    refine ⟨hl.nodup, fun q b hq => (List.mem_cons.mp hq).elim (fun e => (Prod.mk.inj e).1 ▸ hps) (hl.recvd_sent q b),
      hl.acked_sent, hl.timedOut_sent, ?_, fun q hq => (hl.acked_recvd q hq).imp fun _ => List.mem_cons_of_mem _⟩
    · intro q h1 h2
      rcases List.mem_cons.mp h1 with e1 | e1 <;> rcases List.mem_cons.mp h2 with e2 | e2
      · injection e1 with _ b1; injection e2 with _ b2; rw [← b1] at b2; cases b2
      · injection e1 with q1 _; subst q1; exact hnr false e2
      · injection e2 with q2 _; subst q2; exact hnr true e1
      · exact hl.recvd_unique q e1 e2
  | ack _ =>
    obtain ⟨hps, ⟨b, hb, _⟩, _, _⟩ := hg
    exact ⟨hl.nodup, hl.recvd_sent, fun q hq => (List.mem_cons.mp hq).elim (fun e => e ▸ hps) (hl.acked_sent q),
      hl.timedOut_sent, hl.recvd_unique,
      fun q hq => (List.mem_cons.mp hq).elim (fun e => ⟨b, e ▸ hb⟩) (hl.acked_recvd q)⟩
  | timeout _ =>
    exact ⟨hl.nodup, hl.recvd_sent, hl.acked_sent,
      fun q hq => (List.mem_cons.mp hq).elim (fun e => e ▸ hg.1) (hl.timedOut_sent q), hl.recvd_unique, hl.acked_recvd⟩
  | setParams | bankSend => exact ⟨hl.nodup, hl.recvd_sent, hl.acked_sent, hl.timedOut_sent, hl.recvd_unique, hl.acked_recvd⟩

end IbcVerif.Ics20
