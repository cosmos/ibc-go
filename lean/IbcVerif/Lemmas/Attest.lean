/-
  Helper lemmas for the attestations light client model (property C28): what the signature loop accepts
  (`sigLoop_ok_iff`), the outcomes of an update (`step_update_cases`), and the two membership checks as
  one gate `attested` in front of a last check (`committed` / `zeroed`), with what each accepts.
-/
import IbcVerif.Model.Attest
import IbcVerif.Lemmas.Except
namespace IbcVerif.Attest

theorem sigLoop_cons_ok_iff (att : List Addr) (d : Bytes) (σ : Sig) (rest : List Sig) (seen : List Addr) :
    sigLoop att d (σ :: rest) seen = .ok () ↔
      ∃ a, σ = .signed a d ∧ a ∉ seen ∧ a ∈ att ∧ sigLoop att d rest (a :: seen) = .ok () := by
  cases σ with
  | malformed n => by_cases hn : n = 65 <;> simp [sigLoop, Sig.len, recover, hn]
  | unrecoverable => simp [sigLoop, Sig.len, recover]
  | signed a d' =>
    by_cases hd : d' = d
    · simp only [sigLoop, Sig.len, recover, hd, bne_self_eq_false, beq_self_eq_true, if_true, Bool.false_eq_true,
        if_false, error_else_eq_ok]
      simp
    · simp [sigLoop, Sig.len, recover, hd]

theorem sigLoop_ok_iff (att : List Addr) (d : Bytes) (sigs : List Sig) (seen : List Addr) :
    sigLoop att d sigs seen = .ok () ↔
      ∃ signers : List Addr, sigs = signers.map (fun a => Sig.signed a d) ∧
        (∀ a ∈ signers, a ∈ att ∧ a ∉ seen) ∧ signers.Nodup := by
  induction sigs generalizing seen with
  | nil => exact ⟨fun _ => ⟨[], rfl, nofun, List.nodup_nil⟩, fun _ => rfl⟩
  | cons σ rest ih =>
    rw [sigLoop_cons_ok_iff]
    simp only [ih]
    constructor
    · rintro ⟨a, rfl, hs, ha, signers, rfl, hall, hnd⟩
      exact ⟨a :: signers, rfl,
        List.forall_mem_cons.mpr ⟨⟨ha, hs⟩, fun b hb => ⟨(hall b hb).1, fun h => (hall b hb).2 (.tail _ h)⟩⟩,
        List.nodup_cons.mpr ⟨fun h => (hall a h).2 (.head _), hnd⟩⟩
    · rintro ⟨_ | ⟨a, signers⟩, hsig, hall, hnd⟩
      · cases hsig
      · obtain ⟨hnot, hnd⟩ := List.nodup_cons.mp hnd
        obtain ⟨⟨ha, hs⟩, hall⟩ := List.forall_mem_cons.mp hall
        cases hsig
        exact ⟨a, rfl, hs, ha, signers, rfl, fun c hc => ⟨(hall c hc).1, fun h =>
          (List.mem_cons.mp h).elim (fun e => hnot (e ▸ hc)) (hall c hc).2⟩, hnd⟩

theorem verifySignatures_ok_iff_sigLoop (H : Bytes → Bytes) (cs : ClientState) (data : Bytes)
    (sigs : List Sig) (ty : UInt8) :
    verifySignatures H cs data sigs ty = .ok () ↔
      sigs ≠ [] ∧ cs.minSigs ≤ sigs.length ∧ sigLoop cs.attestors (tagged H ty data) sigs [] = .ok () := by
  unfold verifySignatures
  cases sigLoop cs.attestors (tagged H ty data) sigs [] <;> simp [error_else_eq_ok]

theorem accepted_same_digest {H : Bytes → Bytes} {cs : ClientState} {d d' : Bytes} {sigs : List Sig}
    {t t' : UInt8} (h1 : verifySignatures H cs d sigs t = .ok ())
    (h2 : verifySignatures H cs d' sigs t' = .ok ()) : tagged H t d = tagged H t' d' := by
  obtain ⟨hne, -, h1⟩ := (verifySignatures_ok_iff_sigLoop ..).mp h1
  obtain ⟨-, -, h2⟩ := (verifySignatures_ok_iff_sigLoop ..).mp h2
  cases sigs with
  | nil => exact absurd rfl hne
  | cons σ rest =>
    obtain ⟨a, rfl, -⟩ := (sigLoop_cons_ok_iff ..).mp h1
    obtain ⟨b, e, -⟩ := (sigLoop_cons_ok_iff ..).mp h2
    exact (Sig.signed.inj e).2

/-- errors never change the state; only `update` may -/
theorem step_state_cases (H keccak : Bytes → Bytes) (s : State) (op : Op) :
    (step H keccak s op).1 = s ∨ ∃ msg, op = .update msg := by
  cases op with
  | update msg => exact .inr ⟨_, rfl⟩
  | kvm _ _ _ _ | kvnm _ _ _ => left; simp only [step]; split <;> rfl
  | _ => exact .inl rfl

attribute [local simp] step verifyClientMessage checkForMisbehaviour updateState

/-- `Keeper.UpdateClient` either fails and leaves the state as it is, or carries a state-type quorum over
data that decodes to `(h, secs)`: it then freezes the client if another timestamp is stored at `h`, and
stores `nanos secs` there otherwise. -/
theorem step_update_cases (H keccak : Bytes → Bytes) (s : State) (msg : ClientMsg) :
    (∃ e, step H keccak s (.update msg) = (s, .err e)) ∨
    ∃ pr h secs, msg = some pr ∧ s.cs.frozen = false ∧
      verifySignatures H s.cs pr.data pr.sigs tagState = .ok () ∧ pr.stateAtt = some (h, secs) ∧
      ((∃ ts, s.cons.get (0, h) = some ts ∧ ts ≠ nanos secs ∧
          step H keccak s (.update msg) = (freeze s, .ok)) ∨
        step H keccak s (.update msg) =
          (⟨{ s.cs with latest := if h > s.cs.latest then h else s.cs.latest },
            s.cons.set (0, h) (nanos secs)⟩, .ok)) := by
  cases hf : s.cs.frozen with
  | true => exact .inl ⟨.clientNotActive, by simp [hf]⟩
  | false =>
  cases msg with
  | none => exact .inl ⟨.invalidClient, by simp [hf]⟩
  | some pr =>
  cases hsig : verifySignatures H s.cs pr.data pr.sigs tagState with
  | error e => exact .inl ⟨e, by simp [hf, hsig]⟩
  | ok u =>
  cases hdec : pr.stateAtt with
  | none => exact .inl ⟨.panic, by simp [hf, hsig, hdec]⟩
  | some hs =>
  obtain ⟨h, secs⟩ := hs
  refine .inr ⟨pr, h, secs, rfl, rfl, hsig, hdec, ?_⟩
  cases hst : s.cons.get (0, h) with
  | none => exact .inr (by simp [hf, hsig, hdec, hst])
  | some ts =>
    by_cases hd : ts = nanos secs
    · exact .inr (by simp [hf, hsig, hdec, hst, hd])
    · exact .inl ⟨ts, rfl, hd, by simp [hf, hsig, hdec, hst, bne_iff_ne.mpr hd]⟩

/-- `verifyMembership` and `verifyNonMembership` with what differs left open: whether the value is empty
(`false` for non-membership) and the last check `final`, on the key and the attested packets.  The model
writes both functions out in full, as the Go source does; they unfold to this shape, so the two `_eq`
lemmas below hold by `rfl`. -/
def attested (H : Bytes → Bytes) (s : State) (height : Nat × Nat) (proof : Option Proof) (path : PathArg)
    (valueEmpty : Bool) (final : Bytes → List (Bytes × Bytes) → Except Err Unit) : Except Err Unit :=
  if s.cs.frozen then .error .clientFrozen
  else if path.emptyOrNil then .error .invalidPath
  else if valueEmpty then .error .invalidAttestationData
  else match s.cons.get height with
    | none => .error .consensusStateNotFound
    | some _ =>
      match proof with
      | none => .error .invalidAttestationProof
      | some pr =>
        match verifySignatures H s.cs pr.data pr.sigs tagPacket with
        | .error e => .error e
        | .ok () =>
          match pr.decPacket with
          | none => .error .invalidAttestationData
          | some (h, packets) =>
            if h != height.2 then .error .invalidHeight
            else if packets.length == 0 then .error .invalidAttestationData
            else match path with
              | .merkle kp =>
                if kp.length != 1 then .error .invalidPath
                else if (kp.getD 0 []).length == 0 then .error .invalidPath
                else final (kp.getD 0 []) packets
              | _ => .error .invalidType

/-- the last check of `verifyMembership`: some packet carries `value` at the hashed path `c` -/
def committed (value c : Bytes) (packets : List (Bytes × Bytes)) : Except Err Unit :=
  if value.length != 32 then .error .invalidValue
  else if packets.any (fun p => p.2.length == 32 && p.1.length == 32 && p.2 == value && p.1 == c) then .ok ()
  else .error .notMember

/-- the last check of `verifyNonMembership`: `c` is attested, with the zero commitment only -/
def zeroed (c : Bytes) (packets : List (Bytes × Bytes)) : Except Err Unit :=
  let matching := packets.filter (fun p => p.1 == c)
  if matching.isEmpty then .error .notMember
  else if matching.all (fun p => p.2.length == 32 && p.2 == zero32) then .ok ()
  else .error .nonMembershipFailed

theorem verifyMembership_eq (H keccak : Bytes → Bytes) (s : State) (height : Nat × Nat)
    (proof : Option Proof) (path : PathArg) (value : Bytes) :
    verifyMembership H keccak s height proof path value =
      attested H s height proof path (value.length == 0) fun k => committed value (keccak k) :=
  rfl

theorem verifyNonMembership_eq (H keccak : Bytes → Bytes) (s : State) (height : Nat × Nat)
    (proof : Option Proof) (path : PathArg) :
    verifyNonMembership H keccak s height proof path =
      attested H s height proof path false fun k => zeroed (keccak k) :=
  rfl

/-- `hfinal`: both last checks fail on an empty packet list, so that `packets ≠ []` need not be said -/
theorem attested_ok_iff (H : Bytes → Bytes) (s : State) (height : Nat × Nat) (proof : Option Proof)
    (path : PathArg) (valueEmpty : Bool) (final : Bytes → List (Bytes × Bytes) → Except Err Unit)
    (hfinal : ∀ k, final k [] ≠ .ok ()) :
    attested H s height proof path valueEmpty final = .ok () ↔
      s.cs.frozen = false ∧ valueEmpty = false ∧ (s.cons.get height).isSome ∧
      ∃ pr k hh packets, proof = some pr ∧ path = .merkle [k] ∧ k ≠ [] ∧
        verifySignatures H s.cs pr.data pr.sigs tagPacket = .ok () ∧
        pr.decPacket = some (hh, packets) ∧ hh = height.2 ∧ final k packets = .ok () := by
  constructor
  · intro h
    simp only [attested, error_else_eq_ok, Bool.not_eq_true] at h
    obtain ⟨hf, -, hv, h⟩ := h
    cases hc : s.cons.get height with
    | none => rw [hc] at h; cases h
    | some ts =>
    cases proof with
    | none => rw [hc] at h; cases h
    | some pr =>
    simp only [hc] at h
    cases hs : verifySignatures H s.cs pr.data pr.sigs tagPacket with
    | error e => rw [hs] at h; cases h
    | ok u =>
    cases hd : pr.decPacket with
    | none => rw [hs, hd] at h; cases h
    | some hp =>
    obtain ⟨hh, packets⟩ := hp
    simp only [hs, hd, error_else_eq_ok] at h
    obtain ⟨hh2, -, h⟩ := h
    cases path with
    | nil | other => cases h
    | merkle kp =>
    simp only [error_else_eq_ok] at h
    obtain ⟨hlen, hk0, h⟩ := h
    obtain ⟨k, rfl⟩ : ∃ k, kp = [k] := List.length_eq_one_iff.mp (by simpa using hlen)
    exact ⟨hf, hv, rfl, pr, k, hh, packets, rfl, rfl, by simpa using hk0, hs, hd, by simpa using hh2, h⟩
  · rintro ⟨hf, rfl, hc, pr, k, hh, packets, rfl, rfl, hk, hs, hd, rfl, h⟩
    obtain ⟨ts, hts⟩ := Option.isSome_iff_exists.mp hc
    have hpk : packets ≠ [] := fun e => hfinal k (e ▸ h)
    simp [attested, hf, PathArg.emptyOrNil, hts, hs, hd, hpk, hk, h]

theorem committed_ok_iff (value c : Bytes) (packets : List (Bytes × Bytes)) :
    committed value c packets = .ok () ↔
      value.length = 32 ∧ ∃ p ∈ packets, p.1 = c ∧ p.2 = value ∧ p.1.length = 32 := by
  simp only [committed, error_else_eq_ok, ok_else_eq_ok]
  simp only [List.any_eq_true, Bool.and_eq_true, beq_iff_eq, Bool.not_eq_true, bne_eq_false_iff_eq]
  constructor
  · rintro ⟨hv, p, hp, ⟨⟨-, h1⟩, h2⟩, h3⟩
    exact ⟨hv, p, hp, h3, h2, h1⟩
  · rintro ⟨hv, p, hp, h3, h2, h1⟩
    exact ⟨hv, p, hp, ⟨⟨h2 ▸ hv, h1⟩, h2⟩, h3⟩

theorem zeroed_ok_iff (c : Bytes) (packets : List (Bytes × Bytes)) :
    zeroed c packets = .ok () ↔ (∃ p ∈ packets, p.1 = c) ∧ ∀ p ∈ packets, p.1 = c → p.2 = zero32 := by
  simp only [zeroed, error_else_eq_ok, ok_else_eq_ok]
  simp only [Bool.not_eq_true, List.isEmpty_eq_false_iff_exists_mem, List.mem_filter, List.all_eq_true, Bool.and_eq_true,
    beq_iff_eq, and_imp]
  exact and_congr_right fun _ => forall_congr' fun p => forall_congr' fun _ => forall_congr' fun _ =>
    ⟨And.right, fun h => ⟨h ▸ rfl, h⟩⟩

end IbcVerif.Attest
