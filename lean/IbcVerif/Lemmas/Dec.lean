import IbcVerif.Model.Dec
import IbcVerif.Lemmas.Split
namespace IbcVerif

theorem digit_toNat (c : Char) (h : c.isDigit = true) : 48 ≤ c.toNat ∧ c.toNat ≤ 57 := by
  simp only [Char.isDigit, Bool.and_eq_true, decide_eq_true_eq, UInt32.le_iff_toNat_le] at h
  exact h

theorem dec_all_digits (n : Nat) : (dec n).all Char.isDigit = true := by
  simp only [dec, List.all_eq_true]
  intro c hc
  exact Nat.isDigit_of_mem_toDigits (by decide) (by decide) hc

theorem dec_ne_nil (n : Nat) : dec n ≠ [] := Nat.toDigits_ne_nil

theorem dec_head_isDigit (n : Nat) : ∃ c cs, dec n = c :: cs ∧ c.isDigit = true := by
  cases hd : dec n with
  | nil => exact absurd hd (dec_ne_nil n)
  | cons c cs =>
    have := dec_all_digits n
    rw [hd, List.all_cons, Bool.and_eq_true] at this
    exact ⟨c, cs, rfl, this.1⟩

theorem parseUint64_dec (n : Nat) (h : n < 2 ^ 64) : parseUint64 (dec n) = some n := by
  unfold parseUint64
  rw [List.isEmpty_eq_false_iff.2 (dec_ne_nil n), dec_all_digits]
  simp only [dec, Nat.ofDigitChars_ten_toDigits]
  simp [h]

theorem parseUint64_lt (s : List Char) (n : Nat) (h : parseUint64 s = some n) : n < 2 ^ 64 := by
  unfold parseUint64 at h
  split at h
  · cases h
  · split at h
    · simp only at h
      split at h
      · cases h; assumption
      · cases h
    · cases h

theorem dec_injective {a b : Nat} (h : dec a = dec b) : a = b := by
  have := congrArg (fun l => Nat.ofDigitChars 10 l 0) h
  simpa [dec] using this

theorem not_mem_dec_of_not_digit (c : Char) (n : Nat) (hc : c.isDigit = false) : c ∉ dec n := by
  intro hm
  have := Nat.isDigit_of_mem_toDigits (b := 10) (n := n) (by decide) (by decide) hm
  simp [hc] at this

theorem splitOnChar_eq (sep : Char) (s : List Char) : splitOnChar sep s = splitOn sep s := by
  induction s with
  | nil => rfl
  | cons c cs ih => rw [splitOnChar, splitOn, ih]; cases splitOn sep cs <;> rfl

theorem joinWith_eq (sep : Char) : ∀ l, joinWith sep l = joinOn sep l
  | [] => rfl
  | [_] => rfl
  | p :: q :: ps => by rw [joinWith, joinOn, joinWith_eq sep (q :: ps)]

theorem splitOnChar_no_sep (sep : Char) (s : List Char) (h : sep ∉ s) : splitOnChar sep s = [s] := by
  rw [splitOnChar_eq, splitOn_no_sep sep s h]

theorem splitOnChar_append (sep : Char) (a b : List Char) (h : sep ∉ a) :
    splitOnChar sep (a ++ sep :: b) = a :: splitOnChar sep b := by
  rw [splitOnChar_eq, splitOnChar_eq, splitOn_append sep a b h]

theorem splitOnChar_ne_nil (sep : Char) (s : List Char) : splitOnChar sep s ≠ [] := by
  rw [splitOnChar_eq]; exact splitOn_ne_nil sep s

theorem join_split (sep : Char) (s : List Char) : joinWith sep (splitOnChar sep s) = s := by
  rw [splitOnChar_eq, joinWith_eq, joinOn_splitOn]

end IbcVerif
