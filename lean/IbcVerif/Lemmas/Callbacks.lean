/-
  Lemmas for the callbacks model (C40).  `ProcessCallback` has two regimes, told apart by whether the
  contract's gas fits the execution limit (`processCallback_within`, `processCallback_past`); everything
  else about it, and about the middleware entry points (all of the form `withCb … f`), follows from
  these two equations.
-/
import IbcVerif.Model.Callbacks
namespace IbcVerif.Callbacks

variable {c : Contract} {exec : Nat}

/-- The contract finishes within the execution limit: its own outcome decides, all its gas is charged. -/
theorem processCallback_within (h : c.gas ≤ exec) (t : CbType) (commit : Nat) :
    processCallback t exec commit c =
      ⟨match c.out with
        | .ok => .ok
        | .err => .errCallback
        | .panic => if t = .send then .panic else .errPanic,
       c.out == .ok, c.gas⟩ := by
  simp only [processCallback, Contract.run, Nat.not_lt.mpr h, if_false, Nat.min_eq_left h]
  cases c.out
  case panic => cases t <;> rfl
  all_goals rfl

/-- The contract runs past the execution limit: nothing is written, the limit is charged, and the
    transaction aborts if the panic reaches a send callback or the relayer may retry with more gas. -/
theorem processCallback_past (h : exec < c.gas) (t : CbType) (commit : Nat) :
    processCallback t exec commit c =
      ⟨if (t = .send ∧ c.catchOog = none) ∨ exec < commit then .panicOog else .errOog, false, exec⟩ := by
  simp only [processCallback, Contract.run, h, if_true, Nat.min_eq_right (Nat.le_of_lt h)]
  rcases c.catchOog with _ | (_ | _)
  · by_cases ht : t = .send <;> by_cases hr : exec < commit <;> simp [ht, hr]
  all_goals by_cases hr : exec < commit <;> simp [hr]

theorem processCallback_charged (t : CbType) (exec commit : Nat) (c : Contract) :
    (processCallback t exec commit c).charged = min c.gas exec := by
  rcases Nat.lt_or_ge exec c.gas with h | h
  · rw [processCallback_past h, Nat.min_eq_right (Nat.le_of_lt h)]
  · rw [processCallback_within h, Nat.min_eq_left h]

theorem processCallback_wrote (t : CbType) (exec commit : Nat) (c : Contract) :
    (processCallback t exec commit c).wrote = true ↔ c.gas ≤ exec ∧ c.out = .ok := by
  rcases Nat.lt_or_ge exec c.gas with h | h
  · simp [processCallback_past h, Nat.not_le.mpr h]
  · simp [processCallback_within h, h]

theorem processCallback_ok (t : CbType) (exec commit : Nat) (c : Contract) :
    (processCallback t exec commit c).result = .ok ↔ c.gas ≤ exec ∧ c.out = .ok := by
  rcases Nat.lt_or_ge exec c.gas with h | h
  · rw [processCallback_past h]
    simp only [Nat.not_le.mpr h, false_and, iff_false]
    split <;> simp
  · rw [processCallback_within h]
    cases c.out <;> simp [h]
    split <;> simp

theorem processCallback_isPanic {t : CbType} (ht : t ≠ .send) (exec commit : Nat) (c : Contract) :
    (processCallback t exec commit c).result.isPanic = true ↔ c.gas > exec ∧ exec < commit := by
  rcases Nat.lt_or_ge exec c.gas with h | h
  · rw [processCallback_past h]
    by_cases hr : exec < commit <;> simp [ht, hr, h, PcResult.isPanic]
  · rw [processCallback_within h]
    cases c.out <;> simp [ht, Nat.not_lt.mpr h, PcResult.isPanic]

section Middleware
variable (t : CbType) (user remaining max : Nat) (c : Contract)

/-! With well-formed callback data and an application that accepted, every entry point is `withCb`. -/

theorem onAckOrTimeout_valid :
    onAckOrTimeout t false (.valid user) remaining max c = withCb t user remaining max c fun _ => .ok := rfl

theorem onWriteAck_valid :
    onWriteAck false (.valid user) remaining max c = withCb .recv user remaining max c fun _ => .ok := rfl

theorem onSend_valid :
    onSend false (.valid user) remaining max c =
      withCb .send user remaining max c fun o => if o.result = .ok then .ok else .err := rfl

theorem onRecv_valid :
    onRecv .success (.valid user) remaining max c =
      withCb .recv user remaining max c fun o => if o.result = .ok then .ack .success else .ack .error := rfl

theorem withCb_wrote (f : PcOut → MwResult) :
    (withCb t user remaining max c f).cbWrote = true ↔ c.gas ≤ (gasLimits user remaining max).1 ∧ c.out = .ok :=
  processCallback_wrote ..

/-- A callback whose error is only logged (`f` constantly nil: acknowledgement, timeout, written
    acknowledgement) lets the handler return nil or abort, and off the send path aborts exactly on
    out of gas with room to retry. -/
theorem withCb_logged :
    let o := withCb t user remaining max c fun _ => .ok
    let g := gasLimits user remaining max
    (o.result = .ok ∨ o.result = .aborted) ∧
    (t ≠ .send → (o.result = .aborted ↔ c.gas > g.1 ∧ g.1 < g.2)) := by
  simp only [withCb]
  refine ⟨by split <;> simp, fun ht => ?_⟩
  rw [← processCallback_isPanic ht]
  split <;> simp [*]

/-- A callback whose result decides (send, receive): the handler answers `a` exactly when the callback
    succeeded within its limit. -/
theorem withCb_decides {t user remaining max c} {a b : MwResult} (hb : a ≠ b) (ha : a ≠ .aborted) :
    (withCb t user remaining max c fun o => if o.result = .ok then a else b).result = a ↔
      c.gas ≤ (gasLimits user remaining max).1 ∧ c.out = .ok := by
  rw [← processCallback_ok t _ (gasLimits user remaining max).2]
  simp only [withCb]
  generalize (processCallback t _ _ c).result = r
  cases r <;> simp [PcResult.isPanic, hb.symm, ha.symm]

theorem withCb_aborted_of_retry {t user remaining max c} (f : PcOut → MwResult)
    (hg : c.gas > (gasLimits user remaining max).1)
    (hr : (gasLimits user remaining max).1 < (gasLimits user remaining max).2) :
    (withCb t user remaining max c f).result = .aborted := by
  simp [withCb, processCallback_past hg, hr, PcResult.isPanic]

end Middleware

/-- "succeeded within the limit" against C40's `Failed` -/
theorem succeeded_iff_not_failed : c.gas ≤ exec ∧ c.out = .ok ↔ ¬ (c.gas > exec ∨ c.out ≠ .ok) := by
  rw [not_or, Nat.not_lt, Classical.not_not]

end IbcVerif.Callbacks
