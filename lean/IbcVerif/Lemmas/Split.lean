import IbcVerif.Model.Split
namespace IbcVerif
variable {α : Type} [DecidableEq α]

theorem splitOn_ne_nil (sep : α) (s : List α) : splitOn sep s ≠ [] := by
  induction s with
  | nil => simp [splitOn]
  | cons c cs ih =>
    simp only [splitOn]
    split
    · simp
    · split <;> simp

theorem splitOn_no_sep (sep : α) (s : List α) (h : sep ∉ s) : splitOn sep s = [s] := by
  induction s with
  | nil => rfl
  | cons c cs ih =>
    have hc : c ≠ sep := fun e => h (e ▸ List.mem_cons_self)
    have hcs : sep ∉ cs := fun m => h (List.mem_cons_of_mem _ m)
    simp [splitOn, hc, ih hcs]

theorem splitOn_append (sep : α) (a b : List α) (h : sep ∉ a) :
    splitOn sep (a ++ sep :: b) = a :: splitOn sep b := by
  induction a with
  | nil => simp [splitOn]
  | cons c cs ih =>
    have hc : c ≠ sep := fun e => h (e ▸ List.mem_cons_self)
    have hcs : sep ∉ cs := fun m => h (List.mem_cons_of_mem _ m)
    simp [splitOn, hc, ih hcs]

theorem splitOn_append_right (sep : α) (t d : List α) (hd : sep ∉ d) :
    splitOn sep (t ++ sep :: d) = splitOn sep t ++ [d] := by
  induction t with
  | nil => simp [splitOn, splitOn_no_sep sep d hd]
  | cons c cs ih =>
    simp only [List.cons_append, splitOn]
    split
    · rw [ih]; rfl
    · rw [ih]
      cases hs : splitOn sep cs with
      | nil => exact absurd hs (splitOn_ne_nil sep cs)
      | cons p ps => simp

theorem splitOn_joinOn (sep : α) : ∀ (segs : List (List α)), segs ≠ [] → (∀ s ∈ segs, sep ∉ s) →
    splitOn sep (joinOn sep segs) = segs
  | [], h, _ => absurd rfl h
  | [p], _, hs => by
      simp only [joinOn]
      exact splitOn_no_sep sep p (hs p List.mem_cons_self)
  | p :: q :: ps, _, hs => by
      simp only [joinOn]
      rw [splitOn_append sep p _ (hs p List.mem_cons_self)]
      rw [splitOn_joinOn sep (q :: ps) (by simp) (fun s m => hs s (List.mem_cons_of_mem _ m))]

theorem joinOn_inj (sep : α) (a b : List (List α)) (ha : a ≠ []) (hb : b ≠ [])
    (hsa : ∀ s ∈ a, sep ∉ s) (hsb : ∀ s ∈ b, sep ∉ s) (h : joinOn sep a = joinOn sep b) : a = b := by
  have := congrArg (splitOn sep) h
  rwa [splitOn_joinOn sep a ha hsa, splitOn_joinOn sep b hb hsb] at this

theorem joinOn_splitOn (sep : α) (s : List α) : joinOn sep (splitOn sep s) = s := by
  induction s with
  | nil => rfl
  | cons c cs ih =>
    obtain ⟨p, ps, hs⟩ := List.exists_cons_of_ne_nil (splitOn_ne_nil sep cs)
    rw [hs] at ih
    rw [splitOn, hs]
    by_cases h : c = sep
    · rw [if_pos h, joinOn, ih, h]; rfl
    · rw [if_neg h, ← ih]; cases ps <;> rfl

theorem mem_joinOn (sep : α) (x : α) : ∀ (segs : List (List α)), x ∈ joinOn sep segs → x = sep ∨ ∃ s ∈ segs, x ∈ s
  | [], h => by simp [joinOn] at h
  | [p], h => by simp only [joinOn] at h; exact Or.inr ⟨p, List.mem_cons_self, h⟩
  | p :: q :: ps, h => by
      simp only [joinOn, List.mem_append, List.mem_cons] at h
      rcases h with h | h | h
      · exact Or.inr ⟨p, List.mem_cons_self, h⟩
      · exact Or.inl h
      · rcases mem_joinOn sep x (q :: ps) h with r | ⟨s, hs, hx⟩
        · exact Or.inl r
        · exact Or.inr ⟨s, List.mem_cons_of_mem _ hs, hx⟩

end IbcVerif
