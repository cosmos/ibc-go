/-
  Packet-forward-middleware's refund moves keep the tracked total escrow equal to the combined
  escrow-account balance; and they are, on everything the conservation equation looks at, the
  ordinary ICS-20 refund of the forward followed by the reversal of the receive.
-/
import IbcVerif.Model.Ics20Pfm
import IbcVerif.Lemmas.Ics20Escrow
namespace IbcVerif.Ics20
open IbcVerif IbcVerif.Xfer

theorem pfmRefund_ok {cfg : Config} {ch ch' : Chain} {fp fc rp rc : Str} {D : Denom} {n : Nat}
    (h : pfmRefund cfg ch fp fc rp rc D n = .ok ch') :
    ch'.denoms = ch.denoms ∧ ch'.sendEnabled = ch.sendEnabled ∧ ch'.recvEnabled = ch.recvEnabled ∧
    ((D.hasPrefix fp fc = false ∧ D.hasPrefix rp rc = false ∧
        n ≤ ch.bank.bal (cfg.escrowAddr fp fc) (D.ibcDenom cfg.hashHex) ∧
        (∀ a x, ch'.bank.bal a x = moveBal ch.bank.bal (cfg.escrowAddr fp fc) (cfg.escrowAddr rp rc) (D.ibcDenom cfg.hashHex) n a x) ∧
        ch'.bank.supply = ch.bank.supply ∧ ch'.totalEscrow = ch.totalEscrow) ∨
     (D.hasPrefix fp fc = false ∧ D.hasPrefix rp rc = true ∧
        n ≤ ch.bank.bal (cfg.escrowAddr fp fc) (D.ibcDenom cfg.hashHex) ∧ n ≤ ch.bank.supply (D.ibcDenom cfg.hashHex) ∧
        n ≤ ch.totalEscrow (D.ibcDenom cfg.hashHex) ∧
        (∀ a x, ch'.bank.bal a x = if x = D.ibcDenom cfg.hashHex ∧ a = cfg.escrowAddr fp fc then ch.bank.bal a x - n else ch.bank.bal a x) ∧
        (∀ x, ch'.bank.supply x = if x = D.ibcDenom cfg.hashHex then ch.bank.supply x - n else ch.bank.supply x) ∧
        (∀ x, ch'.totalEscrow x = if x = D.ibcDenom cfg.hashHex then ch.totalEscrow x - n else ch.totalEscrow x)) ∨
     (D.hasPrefix fp fc = true ∧ D.hasPrefix rp rc = false ∧
        (∀ a x, ch'.bank.bal a x = if x = D.ibcDenom cfg.hashHex ∧ a = cfg.escrowAddr rp rc then ch.bank.bal a x + n else ch.bank.bal a x) ∧
        (∀ x, ch'.bank.supply x = if x = D.ibcDenom cfg.hashHex then ch.bank.supply x + n else ch.bank.supply x) ∧
        (∀ x, ch'.totalEscrow x = if x = D.ibcDenom cfg.hashHex then ch.totalEscrow x + n else ch.totalEscrow x)) ∨
     (D.hasPrefix fp fc = true ∧ D.hasPrefix rp rc = true ∧ ch' = ch)) := by
  unfold pfmRefund at h
  cases hsdk : sdkValidDenom (D.ibcDenom cfg.hashHex) with
  | false => simp [hsdk] at h
  | true =>
  simp only [hsdk, Bool.not_true, Bool.false_eq_true, if_false] at h
  cases hf : D.hasPrefix fp fc <;> cases hr : D.hasPrefix rp rc <;>
    simp only [hf, hr, Bool.not_true, Bool.not_false, Bool.false_eq_true, if_false, if_true] at h
  · -- escrow → escrow
    split at h
    · cases h
    · rename_i b hb
      cases h
      obtain ⟨hn, hsup, hbal⟩ := Bank.send_some hb
      exact ⟨rfl, rfl, rfl, Or.inl ⟨rfl, rfl, hn, hbal, hsup, rfl⟩⟩
  · -- escrow → burn
    split at h
    · cases h
    · rename_i b hb
      split at h
      · cases h
      · rename_i b' hb'
        split at h
        · cases h
        · cases h
          obtain ⟨hn, hsn, hbal, hsup⟩ := Bank.send_burn hb hb'
          exact ⟨rfl, rfl, rfl, Or.inr (Or.inl ⟨rfl, rfl, hn, hsn, by omega, hbal, hsup,
            totalEscrow_set _ _ (· - n)⟩)⟩
  · -- mint → escrow
    split at h
    · cases h
    · rename_i b' hb'
      cases h
      obtain ⟨hbal, hsup⟩ := Bank.mint_send hb'
      exact ⟨rfl, rfl, rfl, Or.inr (Or.inr (Or.inl ⟨rfl, rfl, hbal, hsup, totalEscrow_set _ _ (· + n)⟩))⟩
  · cases h
    exact ⟨rfl, rfl, rfl, Or.inr (Or.inr (Or.inr ⟨rfl, rfl, rfl⟩))⟩

/-- **Each PFM refund move keeps tracked escrow = combined escrow balance.** -/
theorem escOK_pfmRefund {cfg : Config} (ha : Assm cfg) {es : List Str} (hnd : es.Nodup) {ch ch' : Chain}
    {fc rc : Str} {D : Denom} {n : Nat} (h : EscOK cfg es ch) (hfc : fc ∈ es) (hrc : rc ∈ es)
    (hp : pfmRefund cfg ch transferPort fc transferPort rc D n = .ok ch') : EscOK cfg es ch' := by
  obtain ⟨_, _, _, hb⟩ := pfmRefund_ok hp
  rcases hb with ⟨_, _, hn, hbal, _, hte⟩ | ⟨_, _, hn, _, hnt, hbal, _, hte⟩ | ⟨_, _, hbal, _, hte⟩ | ⟨_, _, rfl⟩
  · -- escrow(fc) → escrow(rc): the combined balance is unchanged
    exact escOK_event hnd h hfc hrc (k := D.ibcDenom cfg.hashHex) (i := n) (o := n)
      (fun e x => by simpa only [hbal, esc_cond ha] using
        (moveBal_add (t := cfg.escrowAddr transferPort rc) hn (cfg.escrowAddr transferPort e) x))
      (fun x => by rw [hte])
  · -- burnt out of escrow(fc)
    refine escOK_event hnd h hfc hfc (k := D.ibcDenom cfg.hashHex) (i := 0) (o := n)
      (fun e x => by simpa only [hbal, esc_cond ha, ite_self, Nat.add_zero] using
        (debit_add hn (cfg.escrowAddr transferPort e) x)) (fun x => ?_)
    rw [hte]
    split_ifs with hx
    · subst hx; omega
    · rfl
  · -- minted into escrow(rc)
    exact escOK_event hnd h hrc hrc (k := D.ibcDenom cfg.hashHex) (i := n) (o := 0)
      (fun e x => by simp only [hbal, credit_add, esc_cond ha, ite_self, Nat.add_zero])
      (fun x => by rw [hte]; split_ifs <;> rfl)
  · exact h

/-- the token an ICS-20 receive credits (`OnRecvPacket`: prefix stripped, or destination hop prepended) -/
def recvToken (sp sc dp dc s : Str) : Denom :=
  if (extract s).hasPrefix sp sc then ⟨(extract s).trace.tail, (extract s).base⟩
  else ⟨⟨dp, dc⟩ :: (extract s).trace, (extract s).base⟩

theorem recvToken_coin (H : Str → Str) (sp sc dp dc s : Str) :
    ics20RecvCoinDenom H sp sc dp dc s = (recvToken sp sc dp dc s).ibcDenom H := by
  unfold ics20RecvCoinDenom recvToken
  by_cases h : (extract s).hasPrefix sp sc = true
  · simp [h]
  · simp [h]

theorem hop_arith {a0 a1 a1' a2 a2' a3 i1 o1 i2 o2 i3 o3 : Nat} (h1 : a1 + o1 = a0 + i1) (h2 : a2 + o2 = a1' + i2)
    (h3 : a3 + o3 = a2' + i3) (hb : i1 + i2 + i3 = o1 + o2 + o3) : a1 + a2 + a3 = a0 + a1' + a2' := by
  omega

/-- **Frame law of a failed forward.**  On the intermediate chain: ICS-20 receives P1 over the refund
    channel `rc` crediting PFM's override receiver `I` (state `ch0 → ch1`); later `I` forwards the received
    token `D` over `fc` (`ch1' → ch2`); later still the forward fails and PFM's refund moves run
    (`ch2' → ch3`); arbitrary other activity in between.  Then on EVERY account and coin, on every
    supply and on every tracked-escrow entry the three changes cancel: the hop leaves no trace.
    (`hunw`: a token that arrived by unescrowing from `rc`'s escrow account is not itself a voucher of
    `rc` — this chain can only have escrowed it there as its source.) -/
theorem pfm_refund_inverts_hop {cfg : Config} {c : Nat} {ch0 ch1 ch1' ch2 ch2' ch3 : Chain}
    {data : PacketData} {sc rc fc : Str} {I : Addr}
    (hrecv : onRecvPacket cfg c ch0 data transferPort sc transferPort rc = .ok ch1)
    (hI : cfg.decode data.receiver = some I)
    (hunw : (extract data.denom).hasPrefix transferPort sc = true →
        (recvToken transferPort sc transferPort rc data.denom).hasPrefix transferPort rc = false)
    (hfwd : sendTransfer cfg c ch1' transferPort fc (recvToken transferPort sc transferPort rc data.denom) data.amount I = .ok ch2)
    (hpfm : pfmRefund cfg ch2' transferPort fc transferPort rc (recvToken transferPort sc transferPort rc data.denom) data.amount = .ok ch3)
    (hI1 : I ≠ cfg.escrowAddr transferPort fc) (hI2 : I ≠ cfg.escrowAddr transferPort rc) :
    (∀ a x, ch1.bank.bal a x + ch2.bank.bal a x + ch3.bank.bal a x =
            ch0.bank.bal a x + ch1'.bank.bal a x + ch2'.bank.bal a x) ∧
    (∀ x, ch1.bank.supply x + ch2.bank.supply x + ch3.bank.supply x =
          ch0.bank.supply x + ch1'.bank.supply x + ch2'.bank.supply x) ∧
    (∀ x, ch1.totalEscrow x + ch2.totalEscrow x + ch3.totalEscrow x =
          ch0.totalEscrow x + ch1'.totalEscrow x + ch2'.totalEscrow x) := by
  obtain ⟨r, hr, _, _, _, hR⟩ := onRecvPacket_effect hrecv
  have hrI : r = I := by rw [hI] at hr; exact (Option.some.inj hr).symm
  subst hrI
  rw [recvToken_coin] at hR
  obtain ⟨_, _, _, hnF, hF⟩ := sendTransfer_effect hfwd
  obtain ⟨_, _, _, hP⟩ := pfmRefund_ok hpfm
  generalize hD : recvToken transferPort sc transferPort rc data.denom = D at *
  generalize hk : D.ibcDenom cfg.hashHex = k at *
  generalize data.amount = n at *
  -- which receive branch ran fixes `D.hasPrefix rc`
  have hrcT : (extract data.denom).hasPrefix transferPort sc = false → D.hasPrefix transferPort rc = true := by
    intro hh
    rw [← hD]
    unfold recvToken
    simp only [hh, Bool.false_eq_true, if_false]
    simp [Denom.hasPrefix]
  -- Each branch changes supply and tracked escrow by `± n` at `k`, and the balances by a move, a credit
  -- or a debit; written additively (`moveBal_add`, `credit_add`, `debit_add`) the sums are linear arithmetic.
  -- `D.hasPrefix fc` and `D.hasPrefix rc` are known in each case, and select the PFM move that ran
  rcases hR with ⟨hu, _, hnR, hteR, hbR, hsR, htR⟩ | ⟨hm, _, hbR, hsR, htR⟩
  · -- the receive unescrowed from escrow(rc)
    have hrc := hunw hu
    have e1 := fun a x => hbR a x ▸ moveBal_add (t := r) hnR a x
    rcases hF with ⟨hfT, hsnF, hbF, hsF, htF⟩ | ⟨hfF, hbF, hsF, htF⟩
    · -- forward burned: PFM mints back into escrow(rc)
      have e2 := fun a x => hbF a x ▸ debit_add hnF a x
      simp only [hfT, hrc, Bool.true_eq_false, Bool.false_eq_true, false_and, true_and, false_or, or_false] at hP
      obtain ⟨hbP, hsP, htP⟩ := hP
      refine ⟨fun a x => ?_, fun x => ?_, fun x => ?_⟩
      · rw [hbP, credit_add]
        exact hop_arith (e1 a x) (e2 a x) (i2 := 0) (o3 := 0) rfl (by omega)
      · rw [hsR, hsF, hsP]
        split_ifs with hx
        · subst hx; omega
        · rfl
      · rw [htR, htF, htP]
        split_ifs with hx
        · subst hx; omega
        · rfl
    · -- forward escrowed in escrow(fc): PFM moves escrow(fc) → escrow(rc)
      have e2 := fun a x => hbF a x ▸ moveBal_add (t := cfg.escrowAddr transferPort fc) hnF a x
      simp only [hfF, hrc, Bool.false_eq_true, false_and, true_and, or_false] at hP
      obtain ⟨hnP, hbP, hsP, htP⟩ := hP
      refine ⟨fun a x => ?_, fun x => by rw [hsR, hsF, hsP], fun x => ?_⟩
      · exact hop_arith (e1 a x) (e2 a x)
          (hbP a x ▸ moveBal_add (t := cfg.escrowAddr transferPort rc) hnP a x) (by omega)
      · rw [htR, htF x, htP]
        split_ifs with hx
        · subst hx; omega
        · rfl
  · -- the receive minted the voucher D = rc :: …
    have hrc := hrcT hm
    rcases hF with ⟨hfT, hsnF, hbF, hsF, htF⟩ | ⟨hfF, hbF, hsF, htF⟩
    · -- forward burned it again (bounce over the arrival channel): PFM does nothing
      have e2 := fun a x => hbF a x ▸ debit_add hnF a x
      simp only [hfT, hrc, Bool.true_eq_false, false_and, true_and, false_or] at hP
      subst hP
      refine ⟨fun a x => ?_, fun x => ?_, fun x => by rw [htR, htF]⟩
      · rw [hbR, credit_add]
        exact hop_arith (o1 := 0) rfl (e2 a x) (i2 := 0) (i3 := 0) (o3 := 0) rfl (by omega)
      · rw [hsR, hsF]
        split_ifs with hx
        · subst hx; omega
        · rfl
    · -- forward escrowed the voucher in escrow(fc): PFM burns it out of escrow(fc)
      have e2 := fun a x => hbF a x ▸ moveBal_add (t := cfg.escrowAddr transferPort fc) hnF a x
      simp only [hfF, hrc, Bool.true_eq_false, Bool.false_eq_true, false_and, true_and, false_or, or_false] at hP
      obtain ⟨hnP, hsnP, hteP, hbP, hsP, htP⟩ := hP
      refine ⟨fun a x => ?_, fun x => ?_, fun x => ?_⟩
      · rw [hbR, credit_add]
        exact hop_arith (o1 := 0) rfl (e2 a x) (hbP a x ▸ debit_add hnP a x) (i3 := 0) (by omega)
      · rw [hsR, hsF, hsP]
        split_ifs with hx
        · subst hx; omega
        · rfl
      · rw [htR, htF x, htP]
        split_ifs with hx
        · subst hx; omega
        · rfl

end IbcVerif.Ics20
