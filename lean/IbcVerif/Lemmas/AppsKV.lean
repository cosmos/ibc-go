/-
  Lookup lemmas for the association-list map and the list-as-set of the application-middleware models.
-/
import IbcVerif.Model.RateLimitKV
namespace IbcVerif.Apps
namespace KV
variable {κ ν : Type} [DecidableEq κ]

theorem get_set (m : List (κ × ν)) (k k' : κ) (v : ν) :
    get (set m k v) k' = if k = k' then some v else get m k' := by
  induction m with
  | nil => simp [set, get]
  | cons h t ih => grind [set, get]

theorem get_erase (m : List (κ × ν)) (k k' : κ) :
    get (erase m k) k' = if k = k' then none else get m k' := by
  induction m with
  | nil => simp [erase, get]
  | cons h t ih => grind [erase, get]

theorem get_mapVals (f : κ → ν → ν) (m : List (κ × ν)) (k : κ) :
    get (mapVals f m) k = (get m k).map (f k) := by
  induction m with
  | nil => simp [mapVals, get]
  | cons h t ih =>
    obtain ⟨hk, hv⟩ := h
    by_cases h1 : hk = k <;> simp [mapVals, get, h1, ih]

end KV

namespace SetL
variable {α : Type} [DecidableEq α]

theorem mem_insert (l : List α) (a b : α) : b ∈ insert l a ↔ b = a ∨ b ∈ l := by
  unfold insert
  by_cases h : a ∈ l
  · simp [h]; intro hb; subst hb; exact h
  · simp [h]

theorem mem_erase (l : List α) (a b : α) : b ∈ erase l a ↔ b ∈ l ∧ b ≠ a := by
  simp [erase]

end SetL
end IbcVerif.Apps
