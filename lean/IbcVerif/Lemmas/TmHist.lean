/-
  Lifting the per-operation facts to the world and to histories (`List Op`).
-/
import IbcVerif.Lemmas.TmStep
namespace IbcVerif.Tm
open IbcVerif

theorem step_client (w : World) (hw : WInv w) (op : Op) (hok : OpOK w op) (cid : Nat) :
    StoreStep w.now (w.client cid) ((step w op).1.client cid) ∨ w.client cid = Store.empty :=
  step_client_cases (P := fun s' => StoreStep w.now (w.client cid) s' ∨ w.client cid = Store.empty) w op cid
    (.inl (StoreStep.refl _ _))
    (fun _ _ _ e => .inr (e ▸ hw.fresh _ (Nat.le_refl _)))
    (fun _ _ _ => .inl (storeStep_update _ (hw.stores cid) _ _ _ _))
    (fun _ _ _ _ => .inl (storeStep_misbehaviour _ _ _ _ _))
    (fun _ _ => .inl ((upgradeStore_above _ _ _ _).storeStep _ (hw.stores cid)))
    (fun b _ => .inl ((recoverStore_above _ _ (hw.stores b).metaInv _).storeStep _ (hw.stores cid)))
    (fun e => .inl (storeStep_pruneAll _ (hw.stores cid) (by subst e; exact hok) _))

theorem Later.refl (s : Store) : Later s s := ⟨fun h => h, Nat.le_refl _, fun _ _ e => Or.inl e⟩

theorem later_step (s0 s s' : Store) (now : Int) (h0 : StoreInv s0) (hl : Later s0 s)
    (hstep : StoreStep now s s' ∨ s = Store.empty) : Later s0 s' := by
  rcases hstep with st | e
  · refine ⟨fun h => st.client (hl.client h), Nat.le_trans hl.latest st.latest, ?_⟩
    intro h c e0
    obtain ⟨cs0, hc⟩ := Option.isSome_iff_exists.mp (h0.hasClient h (has_of_getCons e0))
    have hle0 : hk h ≤ hk s0.latestHeight := latestHeight_of_client hc ▸ h0.below cs0 hc h (has_of_getCons e0)
    rcases hl.kept h c e0 with k | ⟨k, hlow⟩
    · exact st.kept h c k
    · have hn : ¬ s.has h := Option.not_isSome_iff_eq_none.mpr k
      have notnew : ∀ x, ¬ s.has x → s'.has x → hk h < hk x := by
        intro x hx hx'
        rcases st.added x hx hx' with ⟨t, ht, lt⟩ | ⟨_, lt⟩
        · have := hlow t ht; omega
        · have := hl.latest; omega
      right
      constructor
      · cases hg : s'.getCons h with
        | none => rfl
        | some c' =>
          have := notnew h hn (has_of_getCons hg); omega
      · intro h' hh'
        by_cases hin : s.has h'
        · exact hlow h' hin
        · exact notnew h' hin hh'
  · subst e
    have hnone : s0.client = none := Option.not_isSome_iff_eq_none.mp fun h => nomatch hl.client h
    refine ⟨fun h => ?_, ?_, fun h c e0 => ?_⟩
    · rw [hnone] at h; cases h
    · unfold Store.latestHeight; rw [hnone]; exact Nat.zero_le _
    · have := h0.hasClient h (has_of_getCons e0); rw [hnone] at this; cases this

theorem later_run (cid : Nat) (s0 : Store) (h0 : StoreInv s0) : ∀ (ops : List Op) (w : World), WInv w → HistOK w ops →
    Later s0 (w.client cid) → Later s0 ((run w ops).client cid)
  | [], _, _, _, hl => hl
  | op :: ops, w, hw, hok, hl =>
    later_run cid s0 h0 ops (step w op).1 (step_winv w hw op) hok.2
      (later_step s0 _ _ w.now h0 hl (step_client w hw op hok.1 cid))

theorem histOK_of_no_pruneAll : ∀ (ops : List Op) (w : World), (∀ op ∈ ops, op.isPruneAll = false) → HistOK w ops
  | [], _, _ => trivial
  | op :: ops, w, h => by
    refine ⟨?_, histOK_of_no_pruneAll ops _ (fun o ho => h o (List.mem_cons_of_mem _ ho))⟩
    have := h op List.mem_cons_self
    cases op <;> first | trivial | cases this

theorem step_wtsMono (w : World) (hw : WInv w) (hm : WTsMono w) (op : Op) (hop : op.isUpdateLike = true) :
    WTsMono (step w op).1 := fun cid =>
  step_client_cases (P := TsMono) w op cid (hm cid)
    (fun _ _ _ _ => tsMono_init _ _ _ _)
    (fun _ _ _ => tsMono_update _ (hw.stores cid) (hm cid) _ _ _ _)
    (fun _ _ _ _ => misbehaviourStore_fst _ _ _ _ (hm cid) fun _ _ => hm cid)
    (fun _ e => by subst e; cases hop)
    (fun _ e => by subst e; cases hop)
    (fun _ => tsMono_pruneAll _ (hw.stores cid) (hm cid) _)

/-- along a history of updates (headers, misbehaviour, time, pruning) timestamps stay monotone in every client,
    so that the side condition of `pruneAll` holds wherever it occurs -/
theorem run_updateLike : ∀ (ops : List Op) (w : World), WInv w → WTsMono w → (∀ op ∈ ops, op.isUpdateLike = true) →
    WTsMono (run w ops) ∧ HistOK w ops
  | [], _, _, hm, _ => ⟨hm, trivial⟩
  | op :: ops, w, hw, hm, h =>
    have ih := run_updateLike ops _ (step_winv w hw op) (step_wtsMono w hw hm op (h op List.mem_cons_self))
      (fun o ho => h o (List.mem_cons_of_mem _ ho))
    ⟨ih.1, by cases op <;> first | trivial | exact hm _, ih.2⟩

theorem wtsMono_empty : WTsMono World.empty := fun _ _ _ _ _ e => nomatch e

theorem run_append : ∀ (w : World) (a b : List Op), run w (a ++ b) = run (run w a) b
  | _, [], _ => rfl
  | w, op :: a, b => run_append (step w op).1 a b

end IbcVerif.Tm
