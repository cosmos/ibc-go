/-
  The status of a client characterised case by case, the exact conditions under which `UpdateClient` accepts a
  header and the misbehaviour checks pass, the latest height along histories, and the trusting-period arithmetic
  of upgrades: used by C21 (gating), C24 (acceptance conditions) and C25 (recovery / upgrade).
-/
import IbcVerif.Lemmas.TmHist
namespace IbcVerif.Tm
open IbcVerif

/-- the status of an existing client, exactly -/
theorem status_spec (s : Store) (cs : ClientState) (hc : s.client = some cs) (now : Int) :
    s.status now =
      if hk cs.frozen ≠ 0 then Status.frozen
      else match s.getCons cs.latest with
        | none => Status.expired
        | some c => if c.ts + cs.trustingPeriod ≤ now then Status.expired else Status.active := by
  unfold Store.status
  rw [hc]
  simp only [← isZero_iff_hk, ← isExpired_iff, Bool.not_eq_true', ne_eq, Bool.not_eq_true]
  cases cs.frozen.isZero <;> cases s.getCons cs.latest <;> rfl

theorem status_unknown_iff (s : Store) (now : Int) : s.status now = .unknown ↔ s.client = none := by
  unfold Store.status
  cases hc : s.client with
  | none => simp
  | some cs =>
    simp only [reduceCtorEq, iff_false]
    by_cases z : cs.frozen.isZero = true
    · simp only [z, Bool.not_true, Bool.false_eq_true, ↓reduceIte]
      cases s.getCons cs.latest with
      | none => simp
      | some c => by_cases e : isExpired cs.trustingPeriod c.ts now = true <;> simp [e]
    · simp [z]

theorem status_active_iff (s : Store) (now : Int) :
    s.status now = .active ↔ ∃ cs c, s.client = some cs ∧ hk cs.frozen = 0 ∧ s.getCons cs.latest = some c ∧
      now < c.ts + cs.trustingPeriod := by
  cases hc : s.client with
  | none => rw [(status_unknown_iff s now).mpr hc]; simp
  | some cs =>
    rw [status_spec s cs hc]
    simp only [Option.some.injEq, exists_and_left, exists_eq_left']
    by_cases z : hk cs.frozen = 0
    · cases s.getCons cs.latest with
      | none => simp [z]
      | some c => by_cases e : c.ts + cs.trustingPeriod ≤ now <;> simp [z, e] <;> omega
    · simp [z]

theorem status_frozen_iff (s : Store) (now : Int) :
    s.status now = .frozen ↔ ∃ cs, s.client = some cs ∧ hk cs.frozen ≠ 0 := by
  cases hc : s.client with
  | none => rw [(status_unknown_iff s now).mpr hc]; simp
  | some cs =>
    rw [status_spec s cs hc now]
    by_cases z : hk cs.frozen = 0
    · simp only [z, ne_eq, not_true_eq_false, ↓reduceIte, Option.some.injEq, exists_eq_left', iff_false]
      split
      · decide
      · split <;> decide
    · simp [z]

theorem pruneAllStore_client (s : Store) (hs : StoreInv s) (now : Int) : (pruneAllStore s now).1.client = s.client := by
  unfold pruneAllStore
  cases hc : s.client with
  | none => simp [hc]
  | some cs => exact (pruneAll_spec s hs.metaInv cs.trustingPeriod now).2.1.trans hc

theorem step_latest (w : World) (hw : WInv w) (op : Op) (cid : Nat) :
    hk (w.client cid).latestHeight ≤ hk ((step w op).1.client cid).latestHeight :=
  step_client_cases (P := fun s' => hk (w.client cid).latestHeight ≤ hk s'.latestHeight) w op cid
    (Nat.le_refl _)
    (fun _ _ _ e => by rw [e, hw.fresh _ (Nat.le_refl _)]; exact Nat.zero_le _)
    (fun _ _ _ => (storeStep_update _ (hw.stores cid) _ _ _ _).latest)
    (fun _ _ _ _ => (storeStep_misbehaviour _ _ _ _ _).latest)
    (fun _ _ => ((upgradeStore_above _ _ _ _).storeStep w.now (hw.stores cid)).latest)
    (fun b _ => ((recoverStore_above _ _ (hw.stores b).metaInv _).storeStep w.now (hw.stores cid)).latest)
    (fun _ => by unfold Store.latestHeight; rw [pruneAllStore_client _ (hw.stores cid)]; exact Nat.le_refl _)

theorem run_latest (cid : Nat) : ∀ (ops : List Op) (w : World), WInv w →
    hk (w.client cid).latestHeight ≤ hk ((run w ops).client cid).latestHeight
  | [], _, _ => Nat.le_refl _
  | op :: ops, w, hw =>
    Nat.le_trans (step_latest w hw op cid) (run_latest cid ops (step w op).1 (step_winv w hw op))

/-- `UpdateClient` accepts a header (stores it, treats it as a duplicate, or freezes on it) iff the client
    is Active and `verifyHeader` passes; otherwise nothing is written -/
theorem updateStore_accept_iff (s : Store) (hs : StoreInv s) (now : Int) (self : Height) (hdr : Header) (valid : Bool) :
    (((updateStore s now self hdr valid).2 = "updated" ∨ (updateStore s now self hdr valid).2 = "frozen") ↔
      (s.status now = .active ∧ verifyHeader s hdr valid = none)) ∧
    (¬ (s.status now = .active ∧ verifyHeader s hdr valid = none) → (updateStore s now self hdr valid).1 = s) := by
  rcases updateStore_cases s hs now self hdr valid with
    ⟨e, hn, h1, h2⟩ | ⟨_, _, hst, hv, ⟨_, e⟩ | ⟨_, s1, _, _, ⟨_, e⟩ | ⟨_, e⟩⟩⟩
  · have : ¬ (s.status now = .active ∧ verifyHeader s hdr valid = none) := fun ⟨a, b⟩ => hn.elim (· a) (· b)
    exact ⟨⟨fun h => h.elim (absurd · h1) (absurd · h2), fun h => absurd h this⟩, fun _ => e⟩
  all_goals refine ⟨⟨fun _ => ⟨hst, hv⟩, fun _ => ?_⟩, fun h => absurd ⟨hst, hv⟩ h⟩
  · right; rw [e]
  · left; rw [e]
  · left; rw [e]

theorem checkMisbehaviourHeader_none_iff (cs : ClientState) (c : ConsState) (hdr : Header) (now : Int) (valid : Bool) :
    checkMisbehaviourHeader cs c hdr now valid = none ↔
      (hdr.tvals = some c.nvh ∧ hdr.commitOK = true ∧ now - c.ts < cs.trustingPeriod ∧ valid = true) := by
  unfold checkMisbehaviourHeader checkTrustedHeader
  cases hdr.tvals with
  | none => simp
  | some tv =>
    by_cases e1 : tv = c.nvh <;> simp [e1, some_else_eq_none]

theorem verifyMisbehaviour_none_iff (cs : ClientState) (s : Store) (m : Misbehaviour) (now : Int) (v1 v2 : Bool) :
    verifyMisbehaviour cs s m now v1 v2 = none ↔
      ∃ c1 c2, s.getCons m.h1.trusted = some c1 ∧ s.getCons m.h2.trusted = some c2 ∧
        checkMisbehaviourHeader cs c1 m.h1 now v1 = none ∧ checkMisbehaviourHeader cs c2 m.h2 now v2 = none := by
  unfold verifyMisbehaviour
  cases h1 : s.getCons m.h1.trusted with
  | none => simp
  | some c1 =>
    cases h2 : s.getCons m.h2.trusted with
    | none => simp
    | some c2 =>
      cases h3 : checkMisbehaviourHeader cs c1 m.h1 now v1 <;> simp [h3]

theorem roundHalfEven_cases (a b : Nat) : roundHalfEven a b = a / b ∨ roundHalfEven a b = a / b + 1 := by
  unfold roundHalfEven
  simp only
  split
  · left; rfl
  · split
    · right; rfl
    · split
      · left; rfl
      · right; rfl

/-- for unbonding periods below 10^18 ns (≈ 31.7 years) the 18-decimal rounding of `LegacyDec.Quo` never
    reaches the next integer: the scaled trusting period is exactly the floor of `tp · newUb / oldUb` -/
theorem calcTP_floor (tp ou nu : Nat) (h0 : 0 < ou) (h1 : ou < 10 ^ 18) :
    calculateNewTrustingPeriod tp ou nu = tp * nu / ou := by
  unfold calculateNewTrustingPeriod
  rw [if_neg (Nat.ne_of_gt h0)]
  generalize tp * nu = N
  generalize (10:Nat) ^ 18 = E at h1 ⊢
  -- with q = N / ou: both ⌊N·E / ou⌋ and its successor lie in [q·E, (q+1)·E), the upper bound because ou < E
  have lo : N / ou * E ≤ N * E / ou := by
    rw [Nat.le_div_iff_mul_le h0, Nat.mul_right_comm]
    exact Nat.mul_le_mul_right E (Nat.div_mul_le_self N ou)
  have hi : N * E / ou + 1 < (N / ou + 1) * E := by
    have h2 : N * E + E ≤ (N / ou + 1) * ou * E := by
      rw [← Nat.succ_mul]
      exact Nat.mul_le_mul_right E (by rw [Nat.mul_comm]; exact Nat.lt_mul_div_succ N h0)
    have h3 : N * E / ou < (N / ou + 1) * E - 1 := by
      rw [Nat.div_lt_iff_lt_mul h0, Nat.sub_mul, Nat.one_mul, Nat.mul_right_comm]
      omega
    omega
  rcases roundHalfEven_cases (N * E) ou with e | e <;> rw [e] <;> apply Nat.div_eq_of_lt_le <;> omega

end IbcVerif.Tm
