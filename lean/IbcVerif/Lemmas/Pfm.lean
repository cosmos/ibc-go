/-
  Lemmas for the PFM model (C43): receive/forward/refund cancel, a retry cancels, and the invariant
  carried through any run of timeouts ("still in flight with the funds forwarded, or given up and
  restored").
-/
import IbcVerif.Model.Pfm
namespace IbcVerif.Pfm

theorem refund_fwd_recv (h : FHop) (a : Int) (m : Mid) :
    refund h.recv h.fwd a (fwdEff h.fwd a (recvEff h.recv a m)) = m := by
  obtain ⟨r, f⟩ := h
  obtain ⟨v, er, ef, te, ov⟩ := m
  cases r <;> cases f <;> simp [refund, refundCoded, fwdEff, recvEff] <;> omega

theorem fwd_ics20Refund (f : FwdKind) (a : Int) (m : Mid) : fwdEff f a (ics20Refund f a m) = m := by
  obtain ⟨v, er, ef, te, ov⟩ := m
  cases f <;> simp [fwdEff, ics20Refund] <;> omega

theorem refund_ov {r : RecvKind} {f : FwdKind} {a : Int} {m : Mid} : (refund r f a m).ov = m.ov := by
  cases r <;> cases f <;> simp [refund, refundCoded]

theorem fwd_recv_ov (h : FHop) (a : Int) (m : Mid) : (fwdEff h.fwd a (recvEff h.recv a m)).ov = m.ov := by
  obtain ⟨r, f⟩ := h
  cases r <;> cases f <;> simp [fwdEff, recvEff] <;> omega

/-- the state of a forward relative to the chain's state `m0` before the receive -/
def Tracks (h : FHop) (a : Int) (m0 : Mid) (n : Node) : Prop :=
  (n.flight.isSome ∧ n.m = fwdEff h.fwd a (recvEff h.recv a m0)) ∨ (n.flight = none ∧ n.m = m0)

theorem Tracks.m_eq {h : FHop} {a : Int} {m0 : Mid} {n : Node} {r : InFlight} (ht : Tracks h a m0 n)
    (hr : n.flight = some r) : n.m = fwdEff h.fwd a (recvEff h.recv a m0) := by
  rcases ht with ⟨_, hm⟩ | ⟨hn, _⟩
  · exact hm
  · exact nomatch hr.symm.trans hn

/-- A timeout of the packet in flight.  No retries left: the step of an error acknowledgement.  Retries left and
    the re-send succeeding: ICS-20's refund and the new escrow/burn cancel, only the in-flight record moves on. -/
theorem onTimeout_eq {h : FHop} {a : Int} {n : Node} {r : InFlight} (ok : Bool) (hr : n.flight = some r) :
    onTimeout h a ok r.seq n =
      if r.retriesRemaining ≤ 0 then (onErrorAck h a r.seq n, .gaveUp)
      else if ok then
        ({ m := n.m, flight := some ⟨n.nextSeq, r.retriesRemaining - 1⟩, nextSeq := n.nextSeq + 1 }, .retried)
      else (n, .reverted) := by
  simp only [onTimeout, onErrorAck, hr, if_true, forwardOk, fwd_ics20Refund]

theorem onTimeout_tracks {h : FHop} {a : Int} {m0 : Mid} {n : Node} {ok : Bool} {r : InFlight}
    (hr : n.flight = some r) (ht : Tracks h a m0 n) : Tracks h a m0 (onTimeout h a ok r.seq n).1 := by
  have hm := ht.m_eq hr
  rw [onTimeout_eq ok hr]
  by_cases hz : r.retriesRemaining ≤ 0
  · right
    simp [hz, onErrorAck, hr, hm, refund_fwd_recv]
  · left
    cases ok <;> simp [hz, hr, hm]

theorem afterTimeouts_tracks {h : FHop} {a : Int} {m0 : Mid} {n : Node} (evs : List Bool) (hn : Tracks h a m0 n) :
    Tracks h a m0 (afterTimeouts h a n evs) := by
  induction evs generalizing n with
  | nil => exact hn
  | cons ok rest ih =>
    unfold afterTimeouts
    cases hr : n.flight with
    | none => simpa [hr] using hn
    | some r => simp only []; exact ih (onTimeout_tracks hr hn)

theorem settleFailed_of_tracks {h : FHop} {a : Int} {m0 : Mid} {n : Node} (ht : Tracks h a m0 n) :
    (settleFailed h a n).m = m0 ∧ (settleFailed h a n).flight = none := by
  unfold settleFailed
  cases hr : n.flight with
  | none =>
    rcases ht with ⟨hs, _⟩ | ⟨_, hm⟩
    · simp [hr] at hs
    · exact ⟨hm, hr⟩
  | some r =>
    have hm := ht.m_eq hr
    simp only [onErrorAck, hr, if_true]
    exact ⟨by simp only [hm, refund_fwd_recv], trivial⟩

/-- with `k` retries left and every re-send succeeding, `k + 1` timeouts end in the give-up refund -/
theorem exhaust (h : FHop) (a : Int) (k : Nat) :
    ∀ n r, n.flight = some r → r.retriesRemaining = (k : Int) →
      (afterTimeouts h a n (List.replicate (k + 1) true)).flight = none ∧
      (afterTimeouts h a n (List.replicate (k + 1) true)).m = refund h.recv h.fwd a n.m := by
  induction k with
  | zero =>
    intro n r hr hk
    simp [afterTimeouts, onTimeout_eq true hr, hk, onErrorAck, hr]
  | succ k ih =>
    intro n r hr hk
    rw [List.replicate_succ]
    simp only [afterTimeouts, hr]
    rw [onTimeout_eq true hr, if_neg (by omega), if_pos rfl]
    exact ih _ ⟨n.nextSeq, r.retriesRemaining - 1⟩ rfl (by simp only []; omega)

end IbcVerif.Pfm
