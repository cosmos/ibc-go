/-
  Model/Proto.lean: `G.NoPanic` for the varint readers, `rejectLoop`, the `skipPacket` loops and `unmarshalLoop`, on
  every buffer and index.
-/
import IbcVerif.Lemmas.ProtoUnmarshal
namespace IbcVerif.Proto
open IbcVerif

open IbcVerif.G (noPanic_ok noPanic_err noPanic_ite noPanic_ite_err noPanic_bind)

theorem varintAux_noPanic (strict : Bool) (fuel shift : Nat) (d : Bytes) (i acc : Nat) :
    G.NoPanic (varintAux strict fuel shift d i acc) := by
  induction fuel generalizing shift i acc with
  | zero => exact noPanic_err _
  | succ f ih =>
    rw [varintAux]
    exact noPanic_ite_err fun _ => noPanic_ite_err fun hi => G.noPanic_index (by omega) <|
      noPanic_ite_err fun _ => noPanic_ite (fun _ => noPanic_ok _) fun _ => ih _ _ _

theorem varint_noPanic (strict : Bool) (d : Bytes) (i : Nat) : G.NoPanic (varint strict d i) :=
  varintAux_noPanic _ _ _ _ _ _

theorem rejectLoop_noPanic (k fuel : Nat) (d : Bytes) (i : Nat) : G.NoPanic (rejectLoop k fuel d i) := by
  induction fuel generalizing i with
  | zero => exact noPanic_err _
  | succ f ih =>
    rw [rejectLoop]
    refine noPanic_ite (fun _ => noPanic_ok _) fun _ => noPanic_bind _ _ (varint_noPanic _ _ _) fun ⟨tag, i1⟩ _ => ?_
    refine noPanic_ite_err fun _ => noPanic_ite_err fun _ =>
      noPanic_ite (fun _ => noPanic_ite_err fun _ => ?_) fun _ => noPanic_err _
    exact noPanic_bind _ _ (varint_noPanic _ _ _) fun ⟨m, i2⟩ _ => noPanic_ite_err fun _ => ih _

theorem skipVarint_noPanic (fuel shift : Nat) (d : Bytes) (i : Nat) : G.NoPanic (skipVarint fuel shift d i) := by
  induction fuel generalizing shift i with
  | zero => exact noPanic_err _
  | succ f ih =>
    rw [skipVarint]
    exact noPanic_ite_err fun _ => noPanic_ite_err fun hi => G.noPanic_index (by omega) <|
      noPanic_ite (fun _ => noPanic_ok _) fun _ => ih _ _

theorem skipLenAux_noPanic (fuel shift : Nat) (d : Bytes) (i acc : Nat) : G.NoPanic (skipLenAux fuel shift d i acc) := by
  induction fuel generalizing shift i acc with
  | zero => exact noPanic_err _
  | succ f ih =>
    rw [skipLenAux]
    exact noPanic_ite_err fun _ => noPanic_ite_err fun hi => G.noPanic_index (by omega) <|
      noPanic_ite (fun _ => noPanic_ok _) fun _ => ih _ _ _

theorem skipLoop_noPanic (fuel : Nat) (d : Bytes) (i depth : Nat) : G.NoPanic (skipLoop fuel d i depth) := by
  induction fuel generalizing i depth with
  | zero => exact noPanic_err _
  | succ f ih =>
    rw [skipLoop]
    refine noPanic_ite_err fun _ => noPanic_bind _ _ (varint_noPanic _ _ _) fun ⟨wire, i1⟩ _ => ?_
    refine noPanic_bind _ _ ?_ fun ⟨j, depth'⟩ _ =>
      noPanic_ite_err fun _ => noPanic_ite (fun _ => noPanic_ok _) fun _ => ih _ _
    refine noPanic_ite (fun _ => noPanic_bind _ _ (skipVarint_noPanic _ _ _ _) fun _ _ => noPanic_ok _) fun _ =>
      noPanic_ite (fun _ => noPanic_ok _) fun _ => noPanic_ite (fun _ => ?_) fun _ =>
      noPanic_ite (fun _ => noPanic_ok _) fun _ =>
      noPanic_ite (fun _ => noPanic_ite_err fun _ => noPanic_ok _) fun _ =>
      noPanic_ite (fun _ => noPanic_ok _) fun _ => noPanic_err _
    exact noPanic_bind _ _ (skipLenAux_noPanic _ _ _ _ _) fun ⟨len, i2⟩ _ =>
      noPanic_ite_err fun _ => noPanic_ok _

theorem unmarshalLoop_noPanic (k fuel : Nat) (d : Bytes) (i : Nat) (vals : List Bytes) :
    G.NoPanic (unmarshalLoop k fuel d i vals) := by
  induction fuel generalizing i vals with
  | zero => exact noPanic_err _
  | succ f ih =>
    rw [unmarshalLoop]
    refine noPanic_ite (fun _ => noPanic_ite_err fun _ => noPanic_ok _) fun hi =>
      noPanic_bind _ _ (varint_noPanic _ _ _) fun ⟨wire, i1⟩ _ => ?_
    refine noPanic_ite_err fun _ => noPanic_ite_err fun _ =>
      noPanic_ite (fun _ => noPanic_ite_err fun _ => ?_) fun _ => ?_
    · exact noPanic_bind _ _ (varint_noPanic _ _ _) fun ⟨slen, i2⟩ _ =>
        noPanic_ite_err fun _ => noPanic_ite_err fun _ => noPanic_ite_err fun h =>
        G.noPanic_slice (by omega) (by omega) <| ih _ _
    · exact G.noPanic_sliceFrom (by omega) <| noPanic_bind _ _ (skipLoop_noPanic _ _ _ _) fun skippy _ =>
        noPanic_ite_err fun _ => noPanic_ite_err fun _ => ih _ _

end IbcVerif.Proto
