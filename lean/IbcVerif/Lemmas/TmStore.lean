/-
  Store-level lemmas of the 07-tendermint model: the metadata invariant is preserved by the paired
  write / paired delete, neighbour lookups return the true neighbours, pruning removes the oldest.
-/
import IbcVerif.Lemmas.TmIdx
namespace IbcVerif.Tm
open IbcVerif

/-- expiry is inclusive -/
theorem isExpired_iff (tp ts now : Int) : isExpired tp ts now = true ↔ ts + tp ≤ now := by
  unfold isExpired
  simp only [gt_iff_lt, Bool.not_eq_eq_eq_not, Bool.not_true, decide_eq_false_iff_not, Int.not_lt]

theorem getCons_insert (s : Store) (h : Height) (c : ConsState) (ph : Height) (pt : Nat) (h' : Height) :
    ((s.setCons h c).setMeta h ph pt).getCons h' = if h = h' then some c else s.getCons h' :=
  FMap.get_set s.cons h c h'

theorem getCons_delete (s : Store) (h h' : Height) :
    ((s.delCons h).delMeta h).getCons h' = if h = h' then none else s.getCons h' :=
  FMap.get_del s.cons h h'

theorem insert_effect (s : Store) (h : Height) (c : ConsState) (ph : Height) (pt : Nat) :
    let s' := (s.setCons h c).setMeta h ph pt
    s'.getCons h = some c ∧ s'.ptime.get h = some pt ∧ s'.pheight.get h = some ph ∧
    ∀ h', h' ≠ h → s'.getCons h' = s.getCons h' ∧ s'.ptime.get h' = s.ptime.get h' ∧ s'.pheight.get h' = s.pheight.get h' :=
  ⟨FMap.get_set_self _ _ _, FMap.get_set_self _ _ _, FMap.get_set_self _ _ _, fun _ ne =>
    ⟨FMap.get_set_ne _ _ _ _ ne.symm, FMap.get_set_ne _ _ _ _ ne.symm, FMap.get_set_ne _ _ _ _ ne.symm⟩⟩

theorem has_insert (s : Store) (h : Height) (c : ConsState) (ph : Height) (pt : Nat) (h' : Height) :
    ((s.setCons h c).setMeta h ph pt).has h' ↔ (h = h' ∨ s.has h') :=
  FMap.isSome_get_set _ _ _ _

theorem has_delete (s : Store) (h h' : Height) :
    ((s.delCons h).delMeta h).has h' ↔ (h ≠ h' ∧ s.has h') :=
  FMap.isSome_get_del _ _ _

theorem has_of_getCons {s : Store} {h : Height} {c : ConsState} (e : s.getCons h = some c) : s.has h :=
  Option.isSome_iff_exists.mpr ⟨c, e⟩

theorem getCons_of_has {s : Store} {h : Height} (e : s.has h) : ∃ c, s.getCons h = some c :=
  Option.isSome_iff_exists.mp e

theorem client_insert (s : Store) (h : Height) (c : ConsState) (ph : Height) (pt : Nat) :
    ((s.setCons h c).setMeta h ph pt).client = s.client := rfl

theorem client_delete (s : Store) (h : Height) : ((s.delCons h).delMeta h).client = s.client := rfl

theorem metaInv_empty : MetaInv Store.empty :=
  ⟨nofun, .nil, fun _ => ⟨nofun, nofun⟩, fun _ => ⟨nofun, nofun⟩, fun _ => ⟨nofun, nofun⟩⟩

theorem metaInv_client (s : Store) (x : Option ClientState) (inv : MetaInv s) : MetaInv { s with client := x } :=
  ⟨inv.keyed, inv.asc, inv.iter, inv.ptime, inv.pheight⟩

theorem metaInv_insert (s : Store) (inv : MetaInv s) (h : Height) (c : ConsState) (ph : Height) (pt : Nat) :
    MetaInv ((s.setCons h c).setMeta h ph pt) := by
  refine ⟨keyed_ins h s.iter inv.keyed inv.asc, asc_ins h s.iter inv.keyed inv.asc, ?_, ?_, ?_⟩
  · intro h'
    rw [has_insert, ← inv.iter h']
    show (∃ p ∈ Idx.ins (beHeight h) h s.iter, p.2 = h') ↔ _
    simp only [mem_ins h s.iter inv.keyed inv.asc, or_and_right, exists_or, exists_eq_left]
    by_cases ne : h = h'
    · exact iff_of_true (.inl ne) (.inl ne)
    · exact or_congr_right (exists_congr fun p =>
        ⟨fun ⟨⟨hp, _⟩, e⟩ => ⟨hp, e⟩, fun ⟨hp, e⟩ => ⟨⟨hp, e ▸ Ne.symm ne⟩, e⟩⟩)
  · exact fun h' => (FMap.isSome_get_set s.ptime h pt h').trans ((or_congr_right (inv.ptime h')).trans (has_insert ..).symm)
  · exact fun h' => (FMap.isSome_get_set s.pheight h ph h').trans ((or_congr_right (inv.pheight h')).trans (has_insert ..).symm)

theorem metaInv_delete (s : Store) (inv : MetaInv s) (h : Height) : MetaInv ((s.delCons h).delMeta h) := by
  refine ⟨fun q hq => inv.keyed q (List.mem_filter.mp hq).1, inv.asc.filter _, ?_, ?_, ?_⟩
  · intro h'
    rw [has_delete, ← inv.iter h']
    show (∃ p ∈ Idx.del (beHeight h) s.iter, p.2 = h') ↔ _
    simp only [mem_del h s.iter inv.keyed]
    exact ⟨fun ⟨p, ⟨hp, ne⟩, e⟩ => ⟨e ▸ Ne.symm ne, p, hp, e⟩, fun ⟨ne, p, hp, e⟩ => ⟨p, ⟨hp, e ▸ Ne.symm ne⟩, e⟩⟩
  · exact fun h' => (FMap.isSome_get_del s.ptime h h').trans ((and_congr_right' (inv.ptime h')).trans (has_delete ..).symm)
  · exact fun h' => (FMap.isSome_get_del s.pheight h h').trans ((and_congr_right' (inv.pheight h')).trans (has_delete ..).symm)

theorem iterAsc_eq (s : Store) (inv : MetaInv s) : s.iterAsc = s.iter.map (fun p => p.2) :=
  List.map_congr_left fun p hp => by rw [inv.keyed p hp, heightFromKey_beHeight]

theorem mem_iterAsc (s : Store) (inv : MetaInv s) (h : Height) : h ∈ s.iterAsc ↔ s.has h := by
  rw [iterAsc_eq s inv, ← inv.iter h]
  simp only [List.mem_map]

theorem iterAsc_sorted (s : Store) (inv : MetaInv s) : s.iterAsc.Pairwise (fun a b => hk a < hk b) := by
  rw [iterAsc_eq s inv, List.pairwise_map]
  exact inv.asc

/-- the first entry of a scan (the entries of the index, in an order `le` of their heights, filtered by `q`)
    names the `le`-least stored height satisfying `q` -/
theorem scan_head (s : Store) (inv : MetaInv s) {le : Height → Height → Prop} (refl : ∀ h, le h h) {l : Index}
    (hl : ∀ p, p ∈ l ↔ p ∈ s.iter) (hs : l.Pairwise fun a b => le a.2 b.2) (q : Height → Prop) [DecidablePred q] :
    (l.filter (fun p => decide (q p.2)) = [] ∧ ∀ h, s.has h → ¬ q h) ∨
    ∃ k v rest, l.filter (fun p => decide (q p.2)) = (k, v) :: rest ∧ s.has v ∧ q v ∧ ∀ h, s.has h → q h → le v h := by
  have mem : ∀ y, y ∈ l.filter (fun p => decide (q p.2)) ↔ y ∈ s.iter ∧ q y.2 := fun y => by
    rw [List.mem_filter, hl, decide_eq_true_iff]
  cases hf : l.filter (fun p => decide (q p.2)) with
  | nil =>
    refine .inl ⟨rfl, fun h hh hq => ?_⟩
    obtain ⟨p, hp, e⟩ := (inv.iter h).mpr hh
    have := (mem p).mpr ⟨hp, e ▸ hq⟩
    rw [hf] at this; cases this
  | cons a rest =>
    obtain ⟨k, v⟩ := a
    rw [hf] at mem
    have hv := (mem (k, v)).mp List.mem_cons_self
    refine .inr ⟨k, v, rest, rfl, (inv.iter v).mp ⟨_, hv.1, rfl⟩, hv.2, fun h hh hq => ?_⟩
    obtain ⟨p, hp, e⟩ := (inv.iter h).mpr hh
    rcases List.mem_cons.mp ((mem p).mpr ⟨hp, e ▸ hq⟩) with e' | e'
    · rw [← e, e']; exact refl v
    · exact e ▸ (List.pairwise_cons.mp (hf ▸ hs.filter _)).1 p e'

/-- `GetNextConsensusState` returns the consensus state at the least stored height above `x` -/
theorem getNext_eq (s : Store) (inv : MetaInv s) (x : Height) :
    (s.getNext x = none ∧ ∀ h, s.has h → ¬ hk x < hk h) ∨ (∃ h, IsNext s x h ∧ s.getNext x = s.getCons h) := by
  have key : s.getNext x = match s.iter.filter (fun p => decide (hk x < hk p.2)) with
      | [] => none
      | (_, v) :: _ => s.getCons v := by
    unfold Store.getNext
    rw [seekGE_eq s.iter inv.keyed x, scan_above s.iter inv.asc x]
    cases s.iter.filter (fun p => decide (hk x ≤ hk p.2)) with
    | nil => rfl
    | cons a rest =>
      obtain ⟨k, v⟩ := a
      dsimp only
      split <;> rfl
  rw [key]
  rcases scan_head s inv (le := fun a b => hk a ≤ hk b) (fun _ => Nat.le_refl _) (fun _ => Iff.rfl)
      (inv.asc.imp Nat.le_of_lt) (hk x < hk ·) with
    ⟨e, no⟩ | ⟨k, v, rest, e, hv⟩ <;> rw [e]
  · exact .inl ⟨rfl, no⟩
  · exact .inr ⟨v, hv, rfl⟩

/-- `GetPreviousConsensusState` returns the consensus state at the greatest stored height below `x` -/
theorem getPrev_eq (s : Store) (inv : MetaInv s) (x : Height) :
    (s.getPrev x = none ∧ ∀ h, s.has h → ¬ hk h < hk x) ∨ (∃ h, IsPrev s x h ∧ s.getPrev x = s.getCons h) := by
  unfold Store.getPrev
  rw [seekLT_eq s.iter inv.keyed x, ← List.filter_reverse]
  rcases scan_head s inv (le := fun a b => hk b ≤ hk a) (fun _ => Nat.le_refl _) (fun _ => List.mem_reverse)
      (List.pairwise_reverse.mpr (inv.asc.imp Nat.le_of_lt)) (hk · < hk x) with
    ⟨e, no⟩ | ⟨k, v, rest, e, hv⟩ <;> rw [e]
  · exact .inl ⟨rfl, no⟩
  · exact .inr ⟨v, hv, rfl⟩

/-- a lookup that answers with the consensus state of a `le`-least stored height satisfying `q`, or with nothing
    when no stored height satisfies `q`, is characterised by that: the least such height is unique -/
theorem neighbour_iff {s : Store} {g : Option ConsState} {q : Height → Prop} {le : Height → Height → Prop}
    (anti : ∀ {a b}, le a b → le b a → a = b)
    (eq : (g = none ∧ ∀ h, s.has h → ¬ q h) ∨
      ∃ h, (s.has h ∧ q h ∧ ∀ h', s.has h' → q h' → le h h') ∧ g = s.getCons h) :
    (∀ c, g = some c ↔ ∃ h, (s.has h ∧ q h ∧ ∀ h', s.has h' → q h' → le h h') ∧ s.getCons h = some c) ∧
    (g = none ↔ ∀ h, s.has h → ¬ q h) := by
  rcases eq with ⟨e, no⟩ | ⟨n, hn, e⟩ <;> rw [e]
  · exact ⟨fun c => ⟨nofun, fun ⟨h, hh, _⟩ => absurd hh.2.1 (no h hh.1)⟩, fun _ => no, fun _ => rfl⟩
  · obtain ⟨cn, hcn⟩ := getCons_of_has hn.1
    refine ⟨fun c => ⟨fun h => ⟨n, hn, h⟩, fun ⟨h, hh, hc⟩ => ?_⟩, ?_⟩
    · rwa [anti (hn.2.2 h hh.1 hh.2.1) (hh.2.2 n hn.1 hn.2.1)]
    · rw [hcn]
      exact ⟨nofun, fun no => absurd hn.2.1 (no n hn.1)⟩

theorem getNext_iff (s : Store) (inv : MetaInv s) (x : Height) :
    (∀ c, s.getNext x = some c ↔ ∃ h, IsNext s x h ∧ s.getCons h = some c) ∧
    (s.getNext x = none ↔ ∀ h, s.has h → ¬ hk x < hk h) :=
  neighbour_iff (fun h1 h2 => hk_inj.mp (Nat.le_antisymm h1 h2)) (getNext_eq s inv x)

theorem getPrev_iff (s : Store) (inv : MetaInv s) (x : Height) :
    (∀ c, s.getPrev x = some c ↔ ∃ h, IsPrev s x h ∧ s.getCons h = some c) ∧
    (s.getPrev x = none ↔ ∀ h, s.has h → ¬ hk h < hk x) :=
  neighbour_iff (le := fun a b => hk b ≤ hk a) (fun h1 h2 => hk_inj.mp (Nat.le_antisymm h2 h1)) (getPrev_eq s inv x)

theorem match_neighbour {s : Store} {g : Option ConsState} {R : Height → Prop}
    (iff : ∀ c, g = some c ↔ ∃ h, R h ∧ s.getCons h = some c) (bad : ConsState → Bool) :
    (match (motive := Option ConsState → Bool) g with | some p => bad p | none => false) = true ↔
      ∃ h c, R h ∧ s.getCons h = some c ∧ bad c = true := by
  have : (match (motive := Option ConsState → Bool) g with | some p => bad p | none => false) = g.any bad := by
    cases g <;> rfl
  rw [this, Option.any_eq_true]
  exact ⟨fun ⟨c, hg, hb⟩ => let ⟨h, hh, hc⟩ := (iff c).mp hg; ⟨h, c, hh, hc, hb⟩,
    fun ⟨h, c, hh, hc, hb⟩ => ⟨c, (iff c).mpr ⟨h, hh, hc⟩, hb⟩⟩

/-- `pruneOldestConsensusState`: at most one deletion, of the least stored height, only if expired,
    together with all its metadata; never panics on a consistent store -/
theorem pruneOldest_spec (s : Store) (inv : MetaInv s) (tp now : Int) :
    (∃ h c, IsOldest s h ∧ s.getCons h = some c ∧ isExpired tp c.ts now = true ∧
        s.pruneOldest tp now = some ((s.delCons h).delMeta h))
    ∨ (s.pruneOldest tp now = some s ∧ ∀ h c, IsOldest s h → s.getCons h = some c → isExpired tp c.ts now = false) := by
  unfold Store.pruneOldest
  have hsorted := iterAsc_sorted s inv
  have hmem := mem_iterAsc s inv
  cases hi : s.iterAsc with
  | nil => exact .inr ⟨rfl, fun h _ ho _ => by have := (hmem h).mpr ho.1; rw [hi] at this; cases this⟩
  | cons h rest =>
    rw [hi] at hsorted hmem
    have hold : IsOldest s h := ⟨(hmem h).mp List.mem_cons_self, fun h' hh' =>
      (List.mem_cons.mp ((hmem h').mpr hh')).elim (fun e => e ▸ Nat.le_refl _)
        fun e => Nat.le_of_lt ((List.pairwise_cons.mp hsorted).1 h' e)⟩
    obtain ⟨c, hc⟩ := getCons_of_has hold.1
    simp only [hc]
    cases he : isExpired tp c.ts now
    · refine .inr ⟨rfl, fun h2 c2 ho2 hc2 => ?_⟩
      have : h2 = h := hk_inj.mp (Nat.le_antisymm (ho2.2 h hold.1) (hold.2 h2 ho2.1))
      rw [this, hc] at hc2; cases hc2; exact he
    · exact .inl ⟨h, c, hold, hc, he, rfl⟩

theorem delAll_spec : ∀ (hs : List Height) (s : Store), MetaInv s →
    MetaInv (s.delAll hs) ∧ (s.delAll hs).client = s.client ∧
    ∀ h', (s.delAll hs).getCons h' = if h' ∈ hs then none else s.getCons h'
  | [], _, inv => ⟨inv, rfl, fun _ => by simp [Store.delAll]⟩
  | h :: hs, s, inv => by
    have ⟨i, c, g⟩ := delAll_spec hs _ (metaInv_delete s inv h)
    refine ⟨i, c, fun h' => ?_⟩
    unfold Store.delAll
    rw [g h', getCons_delete]
    by_cases e1 : h' ∈ hs
    · simp [e1]
    · by_cases e2 : h = h'
      · simp [e2]
      · simp [e1, e2, Ne.symm e2]

/-- the heights collected by `PruneAllExpiredConsensusStates`: the stored, expired ones -/
theorem expiredHeights_eq (tp now : Int) (s : Store) : ∀ (l : List Height), (∀ h ∈ l, s.has h) →
    Store.expiredHeights tp now s l = l.filter fun h => (s.getCons h).any fun c => isExpired tp c.ts now
  | [], _ => rfl
  | a :: l, hl => by
    obtain ⟨c, hc⟩ := getCons_of_has (hl a List.mem_cons_self)
    rw [Store.expiredHeights, List.filter_cons, hc, expiredHeights_eq tp now s l fun x hx => hl x (List.mem_cons_of_mem _ hx)]
    rfl

/-- `PruneAllExpiredConsensusStates` removes exactly the expired consensus states (with metadata) -/
theorem pruneAll_spec (s : Store) (inv : MetaInv s) (tp now : Int) :
    MetaInv (s.pruneAll tp now).1 ∧ (s.pruneAll tp now).1.client = s.client ∧
    ∀ h c, (s.pruneAll tp now).1.getCons h = some c ↔ (s.getCons h = some c ∧ isExpired tp c.ts now = false) := by
  unfold Store.pruneAll
  have ⟨i, c, g⟩ := delAll_spec (Store.expiredHeights tp now s s.iterAsc) s inv
  refine ⟨i, c, fun h c => ?_⟩
  simp only
  rw [g, expiredHeights_eq tp now s _ fun x hx => (mem_iterAsc s inv x).mp hx]
  have hm : h ∈ s.iterAsc ↔ (s.getCons h).isSome = true := mem_iterAsc s inv h
  simp only [List.mem_filter, hm]
  cases hg : s.getCons h with
  | none => simp
  | some c' =>
    cases he : isExpired tp c'.ts now <;> simp only [Option.isSome_some, Option.any_some, he, and_self, and_false,
      Bool.false_eq_true, ↓reduceIte]
    · exact ⟨fun e => ⟨e, Option.some.inj e ▸ he⟩, fun e => e.1⟩
    · exact ⟨fun e => (nomatch e), fun ⟨e, ne⟩ => by rw [← Option.some.inj e, he] at ne; cases ne⟩

end IbcVerif.Tm
