/-
  Helper lemmas for the Relay model: the sequential-guard combinators, the membership gate, replay
  protection and the ordered-acknowledgement check, and the link from stateless validation
  (`validId`) to the identifier alphabet (`IdOK`) the key-injectivity theorems of C16 need.
-/
import IbcVerif.Model.Relay
import IbcVerif.Lemmas.Keys
import IbcVerif.Lemmas.Commit
import IbcVerif.Lemmas.Except
namespace IbcVerif.Relay
open IbcVerif

/-- the verdicts that are not errors -/
def Verdict.Passes (v : Verdict) : Prop := ∀ e, v ≠ .err e
theorem ok_passes : Verdict.ok.Passes := fun _ h => nomatch h
theorem noop_passes : Verdict.noop.Passes := fun _ h => nomatch h

theorem check_err (c : Bool) (e x : Err) (k : Verdict) :
    check c e k = .err x ↔ (c = false ∧ x = e) ∨ (c = true ∧ k = .err x) := by
  cases c <;> simp [check, eq_comm]

section
variable {v : Verdict} (hv : v.Passes)
include hv

theorem check_eq (c : Bool) (e : Err) (k : Verdict) : check c e k = v ↔ c = true ∧ k = v := by
  cases c <;> simp [check, (hv e).symm]

theorem need_eq {α : Type} (o : Option α) (e : Err) (k : α → Verdict) :
    need o e k = v ↔ ∃ a, o = some a ∧ k a = v := by
  cases o <;> simp [need, (hv e).symm]

theorem pass_eq (o : Option Err) (k : Verdict) : pass o k = v ↔ o = none ∧ k = v := by
  cases o <;> simp [pass, (hv _).symm]

/-- the channel / connection gate shared by the v1 receive and acknowledgement handlers -/
theorem openGate_eq (chan : Option ChanEnd) (conn : Option ConnEnd) (port cid : Bytes) (K : ChanEnd → ConnEnd → Verdict) :
    (need chan .chanNotFound fun ch =>
      check (decide (ch.state = STATE_OPEN)) .chanState <|
      check (decide (port = ch.cpPort)) .invalidPacket <|
      check (decide (cid = ch.cpChan)) .invalidPacket <|
      need conn .connNotFound fun cn =>
      check (decide (cn.state = STATE_OPEN)) .connState (K ch cn)) = v ↔
    ∃ ch cn, chan = some ch ∧ conn = some cn ∧ ch.state = STATE_OPEN ∧ cn.state = STATE_OPEN ∧
      port = ch.cpPort ∧ cid = ch.cpChan ∧ K ch cn = v := by
  simp only [need_eq hv, check_eq hv, decide_eq_true_eq]
  exact ⟨fun ⟨ch, h1, h2, h3, h4, cn, h5, h6, h7⟩ => ⟨ch, cn, h1, h5, h2, h6, h3, h4, h7⟩,
    fun ⟨ch, cn, h1, h5, h2, h6, h3, h4, h7⟩ => ⟨ch, h1, h2, h3, h4, cn, h5, h6, h7⟩⟩

end

/-- `if c { return NOOP }; k` -/
theorem ite_noop_ok {c : Prop} [Decidable c] (k : Verdict) : (if c then Verdict.noop else k) = .ok ↔ ¬c ∧ k = .ok :=
  ite_eq_iff_of_ne nofun

theorem ite_noop_noop {c : Prop} [Decidable c] (k : Verdict) :
    (if c then Verdict.noop else k) = .noop ↔ c ∨ k = .noop := by
  split <;> simp [*]

/-- everything the client keeper and the light client require besides the ICS-23 verification itself -/
def ClientReady (env : Env) (c : ClientFacts) (p : ProofFacts) (dt db : Nat) : Prop :=
  c.active = true ∧ c.latest.lt p.height = false ∧
  Delay.verifyDelayPeriodPassed env.nowNs env.self c.procTime c.procHeight dt db = .ok ∧
  c.decodes = true ∧ c.consFound = true

theorem verifyMembership_none_iff (env : Env) (c : ClientFacts) (p : ProofFacts) (dt db : Nat) (path : List Bytes) (value : Bytes) :
    verifyMembership env c p dt db path value = none ↔ ClientReady env c p dt db ∧ p.proves path value = true := by
  simp only [verifyMembership, ClientReady, some_else_eq_none, Bool.not_eq_true', Bool.not_eq_false, Bool.not_eq_true,
    bne_iff_ne, ne_eq, Decidable.not_not, and_true, and_assoc]

theorem proves_iff (p : ProofFacts) (path : List Bytes) (value : Bytes) :
    p.proves path value = true ↔
      p.intact = true ∧ p.builtAt = p.height ∧ [p.store, p.readKey] = path ∧ p.provenValue = some value := by
  simp [ProofFacts.proves, and_assoc]

/-- v1: the proof was queried from the store the connection names as the counterparty prefix, for
    exactly the key the handler derived -/
theorem proves_v1_iff (p : ProofFacts) (pre key value : Bytes) :
    p.proves (pathV1 pre key) value = true ↔
      p.intact = true ∧ p.builtAt = p.height ∧ p.store = pre ∧ p.readKey = key ∧ p.provenValue = some value := by
  simp [proves_iff, pathV1, and_assoc]

theorem verifyV1_none_iff (env : Env) (c : ClientFacts) (p : ProofFacts) (cn : ConnEnd) (mx : Nat) (key value : Bytes) :
    verifyV1 env c p cn mx key value = none ↔
      cn.cpPrefix ≠ [] ∧ ClientReady env c p cn.delay (Delay.getBlockDelay cn.delay mx) ∧
      p.proves (pathV1 cn.cpPrefix key) value = true := by
  simp only [verifyV1, some_else_eq_none, List.isEmpty_iff, verifyMembership_none_iff, ne_eq, and_assoc]

/-- v2: the key the proof was queried for is the handler's key behind the last element of the
    registered counterparty prefix -/
theorem pathV2_key (pre : List Bytes) (s k key : Bytes) (h : [s, k] = pathV2 pre key) :
    ∃ l, pre.getLast? = some l ∧ k = l ++ key := by
  unfold pathV2 at h
  cases hl : pre.getLast? with
  | none => rw [hl] at h; simp at h
  | some l =>
    rw [hl] at h
    refine ⟨l, rfl, ?_⟩
    have := congrArg List.getLast? h
    simpa using this

/-- replay protection, by ordering: what is left to decide on an UNORDERED and on an ORDERED channel -/
theorem replayV1_eq {v : Verdict} (hv : v.Passes) (f : RecvV1) (ch : ChanEnd) :
    replayV1 f ch = v ↔ ¬ f.pkt.seq.toNat < f.recvStart ∧
      ((ch.ordering = ORDER_UNORDERED ∧ (if f.receipt then Verdict.noop else .ok) = v) ∨
       (ch.ordering = ORDER_ORDERED ∧ ∃ n, f.nextRecv = some n ∧
          (if f.pkt.seq.toNat < n then Verdict.noop else check (decide (f.pkt.seq.toNat = n)) .outOfOrder .ok) = v)) := by
  simp only [replayV1, ORDER_UNORDERED, ORDER_ORDERED, check_eq hv, Bool.not_eq_true', decide_eq_false_iff_not]
  refine and_congr_right fun _ => ?_
  by_cases hu : ch.ordering = 1
  · simp [hu]
  · by_cases ho : ch.ordering = 2
    · simp [ho, need_eq hv]
    · simp [hu, ho, (hv _).symm]

theorem replayV1_ok (f : RecvV1) (ch : ChanEnd) :
    replayV1 f ch = .ok ↔ ¬ f.pkt.seq.toNat < f.recvStart ∧
      ((ch.ordering = ORDER_UNORDERED ∧ f.receipt = false) ∨
       (ch.ordering = ORDER_ORDERED ∧ f.nextRecv = some f.pkt.seq.toNat)) := by
  simp only [replayV1_eq ok_passes, ite_noop_ok, check_eq ok_passes, Bool.not_eq_true, decide_eq_true_eq, and_true]
  refine and_congr_right fun _ => or_congr_right (and_congr_right fun _ => ⟨?_, fun h => ⟨_, h, Nat.lt_irrefl _, rfl⟩⟩)
  rintro ⟨n, h, _, rfl⟩; exact h

theorem replayV1_noop (f : RecvV1) (ch : ChanEnd) :
    replayV1 f ch = .noop ↔ ¬ f.pkt.seq.toNat < f.recvStart ∧
      ((ch.ordering = ORDER_UNORDERED ∧ f.receipt = true) ∨
       (ch.ordering = ORDER_ORDERED ∧ ∃ n, f.nextRecv = some n ∧ f.pkt.seq.toNat < n)) := by
  simp only [replayV1_eq noop_passes, ite_noop_noop, check_eq noop_passes, reduceCtorEq, and_false, or_false]

/-- the sequence check of `AcknowledgePacket` on ORDERED channels -/
theorem ackOrder_ok (o s : Nat) (next : Option Nat) :
    (if o = ORDER_ORDERED then need next .seqNotFound fun n => check (decide (s = n)) .outOfOrder .ok else .ok) = .ok ↔
      (o = ORDER_ORDERED → next = some s) := by
  split
  · cases next with
    | none => simp [*, need]
    | some n => simp [*, need, check_eq ok_passes, eq_comm (a := n)]
  · simp [*]

theorem ackOrder_ne_noop (o s : Nat) (next : Option Nat) :
    (if o = ORDER_ORDERED then need next .seqNotFound fun n => check (decide (s = n)) .outOfOrder .ok else .ok) ≠ .noop := by
  split <;> simp [need_eq noop_passes, check_eq noop_passes]

theorem validId_IdOK (id : Bytes) (mn mx : Nat) (h : Keys.validId id mn mx = true) : Keys.IdOK id := by
  simp only [Keys.validId, Bool.and_eq_true, Bool.not_eq_true', List.isEmpty_eq_false_iff, List.all_eq_true] at h
  exact ⟨h.1.1.1, h.2⟩

theorem pktV1_basic_none (p : PktV1) (h : p.basic = none) :
    Keys.IdOK p.srcPort ∧ Keys.IdOK p.dstPort ∧ Keys.IdOK p.srcChan ∧ Keys.IdOK p.dstChan ∧
      p.seq ≠ 0 ∧ p.timeout.isValid = true ∧ p.data ≠ [] := by
  simp only [PktV1.basic, some_else_eq_none, Bool.not_eq_true', Bool.not_eq_false, beq_iff_eq, List.isEmpty_iff] at h
  obtain ⟨h1, h2, h3, h4, h5, h6, h7, _⟩ := h
  exact ⟨validId_IdOK _ _ _ h1, validId_IdOK _ _ _ h2, validId_IdOK _ _ _ h3, validId_IdOK _ _ _ h4, h5, h6, h7⟩

theorem pktV2_basic_none (p : PktV2) (h : p.basic = none) :
    p.payloads ≠ [] ∧ Keys.IdOK p.srcClient ∧ Keys.IdOK p.dstClient ∧ p.seq ≠ 0 ∧ p.timeout ≠ 0 := by
  simp only [PktV2.basic, some_else_eq_none, List.isEmpty_iff] at h
  obtain ⟨h1, h⟩ := h
  split at h
  · cases h
  · simp only [some_else_eq_none, Bool.not_eq_true', Bool.not_eq_false, Bool.not_eq_true, beq_iff_eq] at h
    obtain ⟨_, h4, h5, h6, h7, _⟩ := h
    exact ⟨h1, validId_IdOK _ _ _ h4, validId_IdOK _ _ _ h5, h6, h7⟩

theorem committedV1_WF (p : PktV1) : p.committed.WF :=
  ⟨UInt64.toNat_lt _, UInt64.toNat_lt _, UInt64.toNat_lt _⟩

theorem committedV1_inj (p q : PktV1) (h : p.committed = q.committed) : p.data = q.data ∧ p.timeout = q.timeout := by
  obtain ⟨_, _, _, _, _, _, ⟨⟨_, _⟩, _⟩⟩ := p
  obtain ⟨_, _, _, _, _, _, ⟨⟨_, _⟩, _⟩⟩ := q
  simp only [PktV1.committed, Commit.PacketV1.mk.injEq, UInt64.toNat_inj] at h
  obtain ⟨rfl, rfl, rfl, rfl⟩ := h
  exact ⟨rfl, rfl⟩

theorem committedV2_inj (p q : PktV2) (h : p.committed = q.committed) :
    p.dstClient = q.dstClient ∧ p.timeout = q.timeout ∧ p.payloads = q.payloads := by
  simp only [PktV2.committed, Commit.PacketV2.mk.injEq] at h
  exact ⟨h.1, UInt64.toNat_inj.mp h.2.1, h.2.2⟩

end IbcVerif.Relay
