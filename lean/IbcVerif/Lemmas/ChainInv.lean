/-
  History-level invariants of the chain model, derived from the transition relation `Tr` only.
-/
import IbcVerif.Lemmas.ChainTrOps
import IbcVerif.Lemmas.Ident
namespace IbcVerif.Chain
open FMap

theorem fmtChan_inj {a b : Nat} (h : fmtChan a = fmtChan b) : a = b := by
  unfold fmtChan at h
  exact dec_injective (List.append_cancel_left (String.ofList_inj.mp h))

theorem fmtConn_inj {a b : Nat} (h : fmtConn a = fmtConn b) : a = b := by
  unfold fmtConn at h
  exact dec_injective (List.append_cancel_left (String.ofList_inj.mp h))

/-- the sequence follows the last '-', whatever the client type -/
theorem fmtClient_seq_inj {t t' : String} {a b : Nat} (h : fmtClient t a = fmtClient t' b) : a = b := by
  unfold fmtClient at h
  have h1 := String.ofList_inj.mp h
  have h2 := congrArg List.reverse h1
  simp only [List.reverse_append, List.reverse_cons, List.append_assoc, List.singleton_append] at h2
  have hn : ∀ n, '-' ∉ (dec n).reverse := fun n m => Ident.dash_not_in_dec n (List.mem_reverse.mp m)
  have h3 := congrArg (splitOnChar '-') h2
  rw [splitOnChar_append _ _ _ (hn a), splitOnChar_append _ _ _ (hn b)] at h3
  exact dec_injective (List.reverse_inj.mp (List.cons.inj h3).1)

theorem fmtClient_inj {t : String} {a b : Nat} (h : fmtClient t a = fmtClient t b) : a = b := fmtClient_seq_inj h

/-- the registered light-client types do not include "channel" -/
theorem not_isClientId_fmtChan (m : Nat) : ¬ IsClientId (fmtChan m) := by
  rintro ⟨t, n, hp, hreg⟩
  have hsplit : splitLastDash (fmtChan m).toList = some ("channel".toList, dec m) := by
    unfold fmtChan splitLastDash
    rw [String.toList_ofList]
    have h1 : splitOnChar '-' ("channel-".toList ++ dec m) = ["channel".toList, dec m] := by
      have e : "channel-".toList = "channel".toList ++ ['-'] := by decide +kernel
      have : "channel-".toList ++ dec m = "channel".toList ++ '-' :: dec m := by
        rw [e, List.append_assoc]; rfl
      rw [this, splitOnChar_append _ _ _ (by decide +kernel), splitOnChar_no_sep _ _ (Ident.dash_not_in_dec m)]
    rw [h1]
    rfl
  unfold parseClientId at hp
  split at hp
  · rename_i hl
    -- "channel-…" is not "09-localhost"
    have := congrArg String.toList hl
    unfold fmtChan localhostClient at this
    rw [String.toList_ofList] at this
    have h0 := congrArg List.head? this
    simp at h0
  · rw [hsplit] at hp
    simp only at hp
    refine ok_ite (fun _ => ok_ite fun _ => ok_ite fun _ hp => ?_) hp
    split at hp
    · cases hp
    · cases hp
      revert hreg
      decide +kernel

/-- close a branch of a handler that returned the original state or a success -/
macro "unch " h:ident : tactic =>
  `(tactic| ((try simp only at $h:ident); (repeat' split at $h:ident) <;>
      (simp only [Prod.mk.injEq] at $h:ident; obtain ⟨h1, h2⟩ := $h:ident; subst h1; subst h2;
        first | rfl | (simp [Out.isOk] at *; done))))

theorem run_append (s : ChainState) (a b : List Op) : run s (a ++ b) = run (run s a) b := by
  induction a generalizing s with
  | nil => rfl
  | cons op a ih => simp only [List.cons_append, run]; exact ih _

theorem run_preserves {P : ChainState → Prop} (hP : ∀ s s', Tr s s' → P s → P s') (s : ChainState) (ops : List Op)
    (h : P s) : P (run s ops) := by
  induction ops generalizing s with
  | nil => exact h
  | cons op ops ih =>
    unfold run
    exact ih _ (hP _ _ (tr_step s op) h)

def Event.isRecv2 (d : Id) (q : Nat) : Event → Bool
  | .recv2 d' q' _ => d' = d ∧ q' = q
  | _ => false

/-- terminal outcome (acknowledgement or timeout callback) of the v1 packet `(p, c, q)` -/
def Event.isTerm1 (p c : Id) (q : Nat) : Event → Bool
  | .ack1 p' c' q' _ => p' = p ∧ c' = c ∧ q' = q
  | .timeout1 p' c' q' => p' = p ∧ c' = c ∧ q' = q
  | _ => false

def Event.isTerm2 (c : Id) (q : Nat) : Event → Bool
  | .ack2 c' q' _ => c' = c ∧ q' = q
  | .timeout2 c' q' _ => c' = c ∧ q' = q
  | _ => false

theorem Event.isRecv2_iff {d : Id} {q : Nat} {e : Event} : e.isRecv2 d q = true ↔ ∃ n, e = .recv2 d q n := by
  cases e <;> simp [Event.isRecv2]

theorem Event.isTerm1_iff {p c : Id} {q : Nat} {e : Event} :
    e.isTerm1 p c q = true ↔ (∃ a, e = .ack1 p c q a) ∨ e = .timeout1 p c q := by
  cases e <;> simp [Event.isTerm1]

theorem Event.isTerm2_iff {c : Id} {q : Nat} {e : Event} :
    e.isTerm2 c q = true ↔ (∃ a, e = .ack2 c q a) ∨ ∃ n, e = .timeout2 c q n := by
  cases e <;> simp [Event.isTerm2]

theorem Event.isSend_iff {id : Id} {q : Nat} {e : Event} :
    e.isSend id q = true ↔ (∃ p, e = .send1 p id q) ∨ ∃ n, e = .send2 id q n := by
  cases e <;> simp [Event.isSend]

theorem EvOK.term1 {s s' : ChainState} {e : Event} {p c : Id} {q : Nat} (hev : EvOK s s' e) (he : e.isTerm1 p c q = true) :
    s.commitV1.get (p, c, q) ≠ none ∧ s'.commitV1.get (p, c, q) = none := by
  rcases Event.isTerm1_iff.mp he with ⟨a, rfl⟩ | rfl
  · obtain ⟨_, _, _, _, h1, h2, _⟩ := hev
    exact ⟨h1, h2⟩
  · obtain ⟨_, _, h1, h2, _⟩ := hev
    exact ⟨h1, h2⟩

theorem EvOK.term2 {s s' : ChainState} {e : Event} {c : Id} {q : Nat} (hev : EvOK s s' e) (he : e.isTerm2 c q = true) :
    s.cpV2.get c ≠ none ∧ s.commitV2.get (c, q) ≠ none ∧ s'.commitV2.get (c, q) = none := by
  rcases Event.isTerm2_iff.mp he with ⟨a, rfl⟩ | ⟨n, rfl⟩ <;> exact hev

structure Inv (s : ChainState) : Prop where
  chanId : ∀ p c ch, s.chan.get (p, c) = some ch → ∃ m, m < s.nextChanSeq ∧ c = fmtChan m
  clientId : ∀ id, s.clientState.get id ≠ none → IsClientId id
  creatorCS : ∀ id, s.creator.get id ≠ none → s.clientState.get id ≠ none
  cpShape : ∀ id, s.cpV2.get id ≠ none → (∃ p, s.chan.get (p, id) ≠ none) ∨ s.clientState.get id ≠ none
  -- C01
  recv1 : ∀ p c q, Event.recv1 p c q ∈ s.log → ∃ ch, s.chan.get (p, c) = some ch ∧
      ((ch.ordering = .unordered ∧ s.receiptV1.get (p, c, q) ≠ none) ∨
       (ch.ordering = .ordered ∧ ∃ n, s.nextRecv.get (p, c) = some n ∧ q < n))
  recv1Count : ∀ p c q, s.log.count (.recv1 p c q) ≤ 1
  recv2 : ∀ d q e, e ∈ s.log → e.isRecv2 d q = true → s.receiptV2.get (d, q) ≠ none
  recv2Count : ∀ d q, (s.log.filter (Event.isRecv2 d q)).length ≤ 1
  -- C03
  commit1 : ∀ p c q, s.commitV1.get (p, c, q) ≠ none →
      (∃ n, s.nextSend.get c = some n ∧ q < n) ∧ s.chan.get (p, c) ≠ none
  commit2 : ∀ c q, s.commitV2.get (c, q) ≠ none →
      (∃ n, s.nextSend.get c = some n ∧ q < n) ∧ s.cpV2.get c ≠ none
  term1 : ∀ p c q e, e ∈ s.log → e.isTerm1 p c q = true →
      s.commitV1.get (p, c, q) = none ∧ (∃ n, s.nextSend.get c = some n ∧ q < n) ∧ s.chan.get (p, c) ≠ none
  term1Count : ∀ p c q, (s.log.filter (Event.isTerm1 p c q)).length ≤ 1
  term2 : ∀ c q e, e ∈ s.log → e.isTerm2 c q = true →
      s.commitV2.get (c, q) = none ∧ (∃ n, s.nextSend.get c = some n ∧ q < n) ∧ s.cpV2.get c ≠ none
  term2Count : ∀ c q, (s.log.filter (Event.isTerm2 c q)).length ≤ 1

theorem Inv.init : Inv Chain.init := by
  constructor <;> intros <;> simp_all [Chain.init, FMap.get_empty]

theorem chan_fresh {s : ChainState} (hi : Inv s) {p c : Id} {ch : Channel} (hc : s.chan.get (p, c) = some ch) :
    c ≠ fmtChan s.nextChanSeq := by
  intro h
  obtain ⟨m, hm, he⟩ := hi.chanId p c ch hc
  rw [h] at he; have := fmtChan_inj he; omega

/-- the send counter of an identifier in use is never reset -/
theorem nextSend_mono {s s' : ChainState} (hi : Inv s) (ht : Tr s s') {id : Id} {n : Nat}
    (hn : s.nextSend.get id = some n)
    (hid : (∃ p, s.chan.get (p, id) ≠ none) ∨ s.cpV2.get id ≠ none) :
    s'.nextSend.get id = some n ∨
    (s'.nextSend.get id = some (n + 1) ∧ ∃ e, s'.log = s.log ++ [e] ∧ e.isSend id n = true) := by
  rcases ht.nextSend id n hn with h | h | h | ⟨hcp, hcr⟩
  · exact .inl h
  · exact .inr h
  · -- the id of a brand-new channel: impossible for an id already in use
    exfalso
    have hchan : ∃ p, s.chan.get (p, id) ≠ none := by
      rcases hid with h' | h'
      · exact h'
      · rcases hi.cpShape id h' with h'' | h''
        · exact h''
        · exact absurd (h ▸ hi.clientId id h'') (not_isClientId_fmtChan _)
    obtain ⟨p, hp⟩ := hchan
    obtain ⟨ch, hc⟩ := Option.ne_none_iff_exists'.mp hp
    exact chan_fresh hi hc h
  · -- registerCounterparty on an id without counterparty: then the id is a client id, not a channel id
    exfalso
    rcases hid with ⟨p, hp⟩ | h'
    · cases hc : s.chan.get (p, id) with
      | none => exact hp hc
      | some ch =>
        obtain ⟨m, _, he⟩ := hi.chanId p id ch hc
        exact not_isClientId_fmtChan m (he ▸ hi.clientId id (hi.creatorCS id hcr))
    · exact h' hcp

theorem chan_persists {s s' : ChainState} (hi : Inv s) (ht : Tr s s') {p c : Id} {ch : Channel}
    (hc : s.chan.get (p, c) = some ch) :
    ∃ ch', s'.chan.get (p, c) = some ch' ∧ ch'.ordering = ch.ordering := by
  rcases ht.chanOld p c ch hc with h | ⟨ch', h1, h2, _⟩
  · exact absurd h (chan_fresh hi hc)
  · exact ⟨ch', h1, h2⟩

theorem chan_mono {s s' : ChainState} (hi : Inv s) (ht : Tr s s') {p c : Id} (h : s.chan.get (p, c) ≠ none) :
    s'.chan.get (p, c) ≠ none := by
  obtain ⟨ch, hc⟩ := Option.ne_none_iff_exists'.mp h
  obtain ⟨ch', h1, _⟩ := chan_persists hi ht hc
  simp [h1]

theorem log_cases {s s' : ChainState} (ht : Tr s s') {x : Event} (hx : x ∈ s'.log) :
    x ∈ s.log ∨ (s'.log = s.log ++ [x] ∧ EvOK s s' x) := by
  rcases ht.log with h | ⟨e, h, hev⟩
  · exact .inl (h ▸ hx)
  · rcases List.mem_append.mp (h ▸ hx) with h1 | h1
    · exact .inl h1
    · cases List.mem_singleton.mp h1
      exact .inr ⟨h, hev⟩

/-- the log gains at most one event per step: a class of events that occurred at most once keeps
    doing so if a new event of the class excludes an old one -/
theorem filter_log_le_one {s s' : ChainState} (ht : Tr s s') {f : Event → Bool} (hl : (s.log.filter f).length ≤ 1)
    (hnew : ∀ e x, EvOK s s' e → f e = true → x ∈ s.log → f x = true → False) : (s'.log.filter f).length ≤ 1 := by
  rcases ht.log with h | ⟨e, h, hev⟩
  · rw [h]; exact hl
  · rw [h, List.filter_append, List.length_append]
    by_cases he : f e = true
    · have : s.log.filter f = [] := by
        rw [List.filter_eq_nil_iff]
        exact fun x hx hfx => hnew e x hev he hx hfx
      simp [this, List.filter, he]
    · simp only [Bool.not_eq_true] at he
      simp [List.filter, he]; exact hl

theorem Inv.step {s s' : ChainState} (hi : Inv s) (ht : Tr s s') : Inv s' := by
  -- "sequence `q` was allocated on an identifier in use" survives the step
  have sent : ∀ id q, (∃ n, s.nextSend.get id = some n ∧ q < n) →
      (∃ p, s.chan.get (p, id) ≠ none) ∨ s.cpV2.get id ≠ none → ∃ n, s'.nextSend.get id = some n ∧ q < n := by
    rintro id q ⟨n, hn, hq⟩ hid
    rcases nextSend_mono hi ht hn hid with h | ⟨h, _⟩
    · exact ⟨n, h, hq⟩
    · exact ⟨n + 1, h, by omega⟩
  constructor
  · intro p c ch' h'
    cases hs : s.chan.get (p, c) with
    | none =>
      obtain ⟨hc, hn, _⟩ := ht.chanNew p c ch' hs h'
      exact ⟨s.nextChanSeq, by omega, hc⟩
    | some ch =>
      obtain ⟨m, hm, he⟩ := hi.chanId p c ch hs
      exact ⟨m, Nat.lt_of_lt_of_le hm ht.nChan, he⟩
  · intro id h'
    by_cases hs : s.clientState.get id = none
    · exact (ht.clientStateNew id hs h').1
    · exact hi.clientId id hs
  · intro id h'
    by_cases hs : s.creator.get id = none
    · exact ht.creatorNew id hs h'
    · exact ht.clientState id (hi.creatorCS id hs)
  · intro id h'
    have old : (∃ p, s.chan.get (p, id) ≠ none) ∨ s.clientState.get id ≠ none →
        (∃ p, s'.chan.get (p, id) ≠ none) ∨ s'.clientState.get id ≠ none := by
      rintro (⟨p, hp⟩ | h)
      · exact .inl ⟨p, chan_mono hi ht hp⟩
      · exact .inr (ht.clientState id h)
    by_cases hs : s.cpV2.get id = none
    · rcases ht.cpV2New id hs h' with h | h
      · exact old (.inl h)
      · exact old (.inr (hi.creatorCS id h))
    · exact old (hi.cpShape id hs)
  · intro p c q hx
    rcases log_cases ht hx with hold | ⟨_, hev⟩
    · obtain ⟨ch, hc, hcase⟩ := hi.recv1 p c q hold
      obtain ⟨ch', hc', ho⟩ := chan_persists hi ht hc
      refine ⟨ch', hc', ?_⟩
      rcases hcase with ⟨hu, hr⟩ | ⟨hu, n, hn, hq⟩
      · exact .inl ⟨ho ▸ hu, ht.receiptV1 _ hr⟩
      · right
        refine ⟨ho ▸ hu, ?_⟩
        rcases ht.nextRecv p c n hn with h | ⟨h, _⟩ | h
        · exact ⟨n, h, hq⟩
        · exact ⟨n + 1, h, by omega⟩
        · exact absurd h (chan_fresh hi hc)
    · obtain ⟨ch, hc, _, hch, hcase⟩ := hev
      refine ⟨ch, hch ▸ hc, ?_⟩
      rcases hcase with ⟨hu, _, hr, _⟩ | ⟨hu, _, hn⟩
      · exact .inl ⟨hu, hr⟩
      · exact .inr ⟨hu, q + 1, hn, by omega⟩
  · intro p c q
    rw [List.count_eq_length_filter]
    refine filter_log_le_one ht (by rw [← List.count_eq_length_filter]; exact hi.recv1Count p c q)
      fun e x hev he hx hfx => ?_
    cases eq_of_beq he; cases eq_of_beq hfx
    obtain ⟨ch1, hc1, hcase1⟩ := hi.recv1 p c q hx
    obtain ⟨ch, hc, _, _, hcase⟩ := hev
    rw [hc1] at hc; cases hc
    rcases hcase1 with ⟨hu1, hr1⟩ | ⟨hu1, n, hn1, hq1⟩ <;> rcases hcase with ⟨hu, hr, _⟩ | ⟨hu, hn, _⟩
    · exact hr1 hr
    · rw [hu1] at hu; cases hu
    · rw [hu1] at hu; cases hu
    · rw [hn1] at hn; cases hn; omega
  · intro d q e hx hr
    rcases log_cases ht hx with hold | ⟨_, hev⟩
    · exact ht.receiptV2 _ (hi.recv2 d q e hold hr)
    · obtain ⟨n, rfl⟩ := Event.isRecv2_iff.mp hr
      exact hev.2
  · intro d q
    exact filter_log_le_one ht (hi.recv2Count d q) fun e x hev he hx hfx => by
      obtain ⟨n, rfl⟩ := Event.isRecv2_iff.mp he
      exact hi.recv2 d q x hx hfx hev.1
  · intro p c q h'
    by_cases hs : s.commitV1.get (p, c, q) = none
    · obtain ⟨_, h2, h3⟩ := ht.commitV1New p c q hs h'
      exact ⟨⟨q + 1, h2, by omega⟩, chan_mono hi ht h3⟩
    · obtain ⟨hsent, hc⟩ := hi.commit1 p c q hs
      exact ⟨sent c q hsent (.inl ⟨p, hc⟩), chan_mono hi ht hc⟩
  · intro c q h'
    by_cases hs : s.commitV2.get (c, q) = none
    · obtain ⟨_, h2, h3⟩ := ht.commitV2New c q hs h'
      exact ⟨⟨q + 1, h2, by omega⟩, ht.cpV2 c h3⟩
    · obtain ⟨hsent, hc⟩ := hi.commit2 c q hs
      exact ⟨sent c q hsent (.inr hc), ht.cpV2 c hc⟩
  · intro p c q e hx hte
    rcases log_cases ht hx with hold | ⟨_, hev⟩
    · obtain ⟨hnone, ⟨n, hn, hq⟩, hc⟩ := hi.term1 p c q e hold hte
      refine ⟨?_, sent c q ⟨n, hn, hq⟩ (.inl ⟨p, hc⟩), chan_mono hi ht hc⟩
      refine Classical.byContradiction fun h' => ?_
      obtain ⟨h1, _⟩ := ht.commitV1New p c q hnone h'
      rw [hn] at h1; cases h1; omega
    · obtain ⟨hcm, hnone⟩ := hev.term1 hte
      obtain ⟨hsent, hcc⟩ := hi.commit1 _ _ _ hcm
      exact ⟨hnone, sent c q hsent (.inl ⟨p, hcc⟩), chan_mono hi ht hcc⟩
  · intro p c q
    exact filter_log_le_one ht (hi.term1Count p c q) fun e x hev he hx hfx =>
      (hev.term1 he).1 (hi.term1 p c q x hx hfx).1
  · intro c q e hx hte
    rcases log_cases ht hx with hold | ⟨_, hev⟩
    · obtain ⟨hnone, ⟨n, hn, hq⟩, hc⟩ := hi.term2 c q e hold hte
      refine ⟨?_, sent c q ⟨n, hn, hq⟩ (.inr hc), ht.cpV2 c hc⟩
      refine Classical.byContradiction fun h' => ?_
      obtain ⟨h1, _⟩ := ht.commitV2New c q hnone h'
      rw [hn] at h1; cases h1; omega
    · obtain ⟨_, hcm, hnone⟩ := hev.term2 hte
      obtain ⟨hsent, hcc⟩ := hi.commit2 _ _ hcm
      exact ⟨hnone, sent c q hsent (.inr hcc), ht.cpV2 c hcc⟩
  · intro c q
    exact filter_log_le_one ht (hi.term2Count c q) fun e x hev he hx hfx =>
      (hev.term2 he).2.1 (hi.term2 c q x hx hfx).1

theorem inv_run {s : ChainState} (hi : Inv s) (ops : List Op) : Inv (Chain.run s ops) :=
  run_preserves (fun _ _ ht h => h.step ht) s ops hi

theorem inv_run_init (ops : List Op) : Inv (Chain.run Chain.init ops) := inv_run Inv.init ops

end IbcVerif.Chain
