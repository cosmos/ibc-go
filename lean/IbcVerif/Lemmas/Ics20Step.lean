/-
  Shape of successful message handlers and of `step` for the ICS-20 model.
-/
import IbcVerif.Lemmas.Ics20
import IbcVerif.Lemmas.Except
namespace IbcVerif.Ics20
open IbcVerif IbcVerif.Xfer

theorem transfer_ok {cfg : Config} {c : Nat} {ch ch' : Chain} {m : MsgTransfer} {ce : Option String} {seq : Nat}
    {p : Packet} (h : transfer cfg c ch m ce seq = .ok (ch', p)) :
    ∃ s n tok, cfg.decode m.sender = some s ∧ expandAmount ch s m = some n ∧
      tokenFromCoin cfg ch m.denom = .ok tok ∧ hopFreeBase tok.base = true ∧
      validatePacketData ⟨tok.path, n, m.sender, m.receiver, m.memo⟩ = none ∧
      p.data = ⟨tok.path, n, m.sender, m.receiver, m.memo⟩ ∧
      p.srcChain = c ∧ p.srcPort = transferPort ∧ p.srcChan = m.chan ∧ p.dstPort = transferPort ∧
      cfg.peer c m.chan = some (p.dstChain, p.dstChan) ∧ p.seq = seq ∧
      ((p.v2 = false ∧ sendTransfer cfg c ch transferPort m.chan tok n s = .ok ch') ∨
       (p.v2 = true ∧ (extract tok.path).base.contains '/' = false ∧
          sendTransfer cfg c ch transferPort m.chan (extract tok.path) n s = .ok ch')) := by
  unfold transfer at h
  rw [error_else_eq_ok] at h
  replace h := h.2
  cases hs : cfg.decode m.sender <;> simp only [hs] at h
  case none => cases h
  rename_i s
  cases hn : expandAmount ch s m <;> simp only [hn] at h
  case none => cases h
  rename_i n
  cases htok : tokenFromCoin cfg ch m.denom <;> simp only [htok] at h
  case error => cases h
  rename_i tok
  rw [error_else_eq_ok] at h
  obtain ⟨hhf, h⟩ := h
  cases hv : validatePacketData ⟨tok.path, n, m.sender, m.receiver, m.memo⟩ <;> simp only [hv] at h
  case some => cases h
  refine ⟨s, n, tok, rfl, hn, rfl, by simpa using hhf, hv, ?_⟩
  split at h
  · -- v1: `SendTransfer`, then core `SendPacket`
    cases hst : sendTransfer cfg c ch transferPort m.chan tok n s <;> simp only [hst] at h
    case error => cases h
    cases ce <;> simp only at h
    case some => cases h
    cases hpeer : cfg.peer c m.chan <;> simp only [hpeer] at h
    case none => cases h
    cases h
    exact ⟨rfl, rfl, rfl, rfl, rfl, rfl, rfl, Or.inl ⟨rfl, rfl⟩⟩
  · -- v2: core first, then `OnSendPacket` on the re-parsed token
    rw [error_else_eq_ok] at h
    replace h := h.2
    cases hpeer : cfg.peer c m.chan <;> simp only [hpeer] at h
    case none => cases h
    cases ce <;> simp only [error_else_eq_ok] at h
    case some => cases h
    obtain ⟨_, hslash, h⟩ := h
    cases hst : sendTransfer cfg c ch transferPort m.chan (extract tok.path) n s <;> simp only [hst] at h
    case error => cases h
    cases h
    exact ⟨rfl, rfl, rfl, rfl, rfl, rfl, rfl, Or.inr ⟨rfl, by simpa using hslash, rfl⟩⟩

theorem sendPacketV2_ok {cfg : Config} {c : Nat} {ch ch' : Chain} {signer client : Str} {data : PacketData}
    {ce : Option String} {seq : Nat} {p : Packet}
    (h : sendPacketV2 cfg c ch signer client data ce seq = .ok (ch', p)) :
    ∃ s, cfg.decode signer = some s ∧ cfg.decode data.sender = some s ∧ validatePacketData data = none ∧
      p.data = data ∧ p.srcChain = c ∧ p.srcPort = transferPort ∧ p.srcChan = client ∧ p.dstPort = transferPort ∧
      cfg.peer c client = some (p.dstChain, p.dstChan) ∧ p.seq = seq ∧ p.v2 = true ∧
      (extract data.denom).base.contains '/' = false ∧
      sendTransfer cfg c ch transferPort client (extract data.denom) data.amount s = .ok ch' := by
  unfold sendPacketV2 at h
  cases hs : cfg.decode signer <;> simp only [hs] at h
  case none => cases h
  rename_i s
  cases hpeer : cfg.peer c client <;> simp only [hpeer] at h
  case none => cases h
  rename_i dd
  cases ce <;> simp only at h
  case some => cases h
  rw [error_else_eq_ok] at h
  cases hv : validatePacketData data <;> simp only [hv] at h
  case some => cases h.2
  cases hs' : cfg.decode data.sender <;> simp only [hs'] at h
  case none => cases h.2
  rename_i s'
  simp only [error_else_eq_ok] at h
  obtain ⟨_, heq, hslash, h⟩ := h
  cases hst : sendTransfer cfg c ch transferPort client (extract data.denom) data.amount s <;> simp only [hst] at h
  case error => cases h
  cases h
  exact ⟨s, rfl, congrArg some (Classical.not_not.mp heq), rfl, rfl, rfl, rfl, rfl, rfl, rfl, rfl, rfl, by simpa using hslash, hst⟩

def opChain : Op → Nat
  | .transfer c _ _ _ _ _ => c
  | .sendV2 c _ _ _ _ _ => c
  | .recv p => p.dstChain
  | .ack p _ => p.srcChain
  | .timeout p _ => p.srcChain
  | .setParams c _ _ => c
  | .bankSend c _ _ _ _ => c

theorem setChain_same (w : World) (c : Nat) (ch : Chain) : (w.setChain c ch).chains c = ch := by
  simp [World.setChain]

theorem setChain_other (w : World) (c c' : Nat) (ch : Chain) (h : c' ≠ c) : (w.setChain c ch).chains c' = w.chains c' := by
  simp [World.setChain, h]

theorem setChain_congr {α : Type} (g : Chain → α) {w : World} {c : Nat} {ch' : Chain} (h : g ch' = g (w.chains c))
    (c' : Nat) : g ((w.setChain c ch').chains c') = g (w.chains c') := by
  simp only [World.setChain]
  split_ifs with e
  · rw [h, e]
  · rfl

/-- What a step made of the world, and its result: nothing, with a failure (a failing handler leaves the
    world as it was), or the one successful outcome of its operation. -/
inductive Stepped (cfg : Config) (w : World) : Op → World → Res → Prop
  | fail (op : Op) {r : Res} (hok : r ≠ .ok) (hsent : ∀ p, r ≠ .sent p) : Stepped cfg w op w r
  | transfer {c : Nat} {signer : Str} {viaTx : Bool} {m : MsgTransfer} {ce : Option String} {seq : Nat} {ch' : Chain}
      {p : Packet} (hsig : viaTx = true → signer = m.sender) (h : transfer cfg c (w.chains c) m ce seq = .ok (ch', p)) :
      Stepped cfg w (.transfer c signer viaTx m ce seq) { w.setChain c ch' with sent := p :: w.sent } (.sent p)
  | sendV2 {c : Nat} {signer client : Str} {data : PacketData} {ce : Option String} {seq : Nat} {ch' : Chain} {p : Packet}
      (h : sendPacketV2 cfg c (w.chains c) signer client data ce seq = .ok (ch', p)) :
      Stepped cfg w (.sendV2 c signer client data ce seq) { w.setChain c ch' with sent := p :: w.sent } (.sent p)
  | recv {p : Packet} {ch' : Chain} {o : RecvOutcome} (h : recvPacket cfg p.dstChain (w.chains p.dstChain) p = .ok (ch', o)) :
      Stepped cfg w (.recv p) { w.setChain p.dstChain ch' with recvd := (p, decide (o = .success)) :: w.recvd } (.recvd o)
  | ack {p : Packet} {a : Ack} {ch' : Chain} (h : ackPacket cfg p.srcChain (w.chains p.srcChain) p a = .ok ch') :
      Stepped cfg w (.ack p a) { w.setChain p.srcChain ch' with acked := p :: w.acked } .ok
  | timeout {p : Packet} {oc : Bool} {ch' : Chain} (h : timeoutPacket cfg p.srcChain (w.chains p.srcChain) p = .ok ch') :
      Stepped cfg w (.timeout p oc) { w.setChain p.srcChain ch' with timedOut := p :: w.timedOut } .ok
  | setParams (c : Nat) (s r : Bool) :
      Stepped cfg w (.setParams c s r) (w.setChain c { w.chains c with sendEnabled := s, recvEnabled := r }) .ok
  | bankSend {c : Nat} {f t : Addr} {d : Str} {n : Nat} {b : Bank} (h : (w.chains c).bank.send f t d n = some b) :
      Stepped cfg w (.bankSend c f t d n) (w.setChain c { w.chains c with bank := b }) .ok

theorem stepped (cfg : Config) (w : World) (op : Op) : Stepped cfg w op (step cfg w op).1 (step cfg w op).2 := by
  have err : ∀ op e, Stepped cfg w op w (.err e) := fun op e => .fail op (by simp) (by simp)
  have fail : ∀ op f, Stepped cfg w op w (failRes f) := fun op f => by
    cases f
    · exact err op _
    · exact .fail op (by simp [failRes]) (by simp [failRes])
  cases op <;> simp only [step]
  case transfer c signer viaTx m ce seq =>
    split
    · exact err _ _
    · split
      · exact err _ _
      · rename_i hsig
        split
        · rename_i ch' p ht
          exact .transfer (fun hv => by subst hv; simpa using hsig) ht
        · exact fail _ _
  case sendV2 =>
    split
    · exact .sendV2 ‹_›
    · exact fail _ _
  case recv =>
    split
    · exact .recv ‹_›
    · exact fail _ _
  case ack =>
    split
    · exact .ack ‹_›
    · exact fail _ _
  case timeout =>
    split
    · exact .timeout ‹_›
    · exact fail _ _
  case setParams c s r => exact .setParams c s r
  case bankSend =>
    split
    · exact err _ _
    · split
      · exact .bankSend ‹_›
      · exact err _ _

theorem Stepped.other_chain {cfg : Config} {w w' : World} {op : Op} {r : Res} (h : Stepped cfg w op w' r) {c : Nat}
    (hc : c ≠ opChain op) : w'.chains c = w.chains c := by
  cases h <;> first | rfl | exact setChain_other _ _ _ _ hc

theorem stepped_of_eq {cfg : Config} {w w' : World} {op : Op} {r : Res} (h : step cfg w op = (w', r)) :
    Stepped cfg w op w' r := by
  have hs := stepped cfg w op
  rwa [h] at hs

theorem step_transfer_sent {cfg : Config} {w w' : World} {c : Nat} {signer : Str} {viaTx : Bool} {m : MsgTransfer}
    {ce : Option String} {seq : Nat} {p : Packet}
    (h : step cfg w (.transfer c signer viaTx m ce seq) = (w', .sent p)) :
    (viaTx = true → signer = m.sender) ∧
    ∃ ch', transfer cfg c (w.chains c) m ce seq = .ok (ch', p) ∧
      w' = { w.setChain c ch' with sent := p :: w.sent } := by
  cases stepped_of_eq h with
  | fail _ _ hsent => exact absurd rfl (hsent p)
  | transfer hsig ht => exact ⟨hsig, _, ht, rfl⟩

theorem step_sendV2_sent {cfg : Config} {w w' : World} {c : Nat} {signer client : Str} {data : PacketData}
    {ce : Option String} {seq : Nat} {p : Packet}
    (h : step cfg w (.sendV2 c signer client data ce seq) = (w', .sent p)) :
    ∃ ch', sendPacketV2 cfg c (w.chains c) signer client data ce seq = .ok (ch', p) ∧
      w' = { w.setChain c ch' with sent := p :: w.sent } := by
  cases stepped_of_eq h with
  | fail _ _ hsent => exact absurd rfl (hsent p)
  | sendV2 ht => exact ⟨_, ht, rfl⟩

theorem step_ack_cases (cfg : Config) (w : World) (p : Packet) (a : Ack) :
    (∃ ch', ackPacket cfg p.srcChain (w.chains p.srcChain) p a = .ok ch' ∧
       step cfg w (.ack p a) = ({ w.setChain p.srcChain ch' with acked := p :: w.acked }, .ok)) ∨
    ((step cfg w (.ack p a)).1 = w ∧ (step cfg w (.ack p a)).2 ≠ .ok) := by
  cases hs : step cfg w (.ack p a)
  cases stepped_of_eq hs with
  | fail _ hok => exact Or.inr ⟨rfl, hok⟩
  | ack h => exact Or.inl ⟨_, h, rfl⟩

theorem step_timeout_cases (cfg : Config) (w : World) (p : Packet) (oc : Bool) :
    (∃ ch', timeoutPacket cfg p.srcChain (w.chains p.srcChain) p = .ok ch' ∧
       step cfg w (.timeout p oc) = ({ w.setChain p.srcChain ch' with timedOut := p :: w.timedOut }, .ok)) ∨
    ((step cfg w (.timeout p oc)).1 = w ∧ (step cfg w (.timeout p oc)).2 ≠ .ok) := by
  cases hs : step cfg w (.timeout p oc)
  cases stepped_of_eq hs with
  | fail _ hok => exact Or.inr ⟨rfl, hok⟩
  | timeout h => exact Or.inl ⟨_, h, rfl⟩

theorem recvPacket_ok {cfg : Config} {c : Nat} {ch ch' : Chain} {p : Packet} {o : RecvOutcome}
    (h : recvPacket cfg c ch p = .ok (ch', o)) :
    (o = .success ∧ onRecvPacket cfg c ch p.data p.srcPort p.srcChan p.dstPort p.dstChan = .ok ch') ∨
    (o ≠ .success ∧ ch' = ch) := by
  unfold recvPacket at h
  split at h
  · cases h
    exact Or.inr ⟨by simp, rfl⟩
  · split at h
    · cases h
      exact Or.inr ⟨by simp, rfl⟩
    · split at h
      · rename_i ch1 hr
        cases h
        exact Or.inl ⟨rfl, hr⟩
      · cases h
        exact Or.inr ⟨by simp, rfl⟩
      · cases h

theorem ackPacket_ok {cfg : Config} {c : Nat} {ch ch' : Chain} {p : Packet} {a : Ack}
    (h : ackPacket cfg c ch p a = .ok ch') :
    (a = .result ∧ ch' = ch) ∨
    ((a = .error ∨ a = .sentinel) ∧ refundPacketTokens cfg c ch p.srcPort p.srcChan p.data = .ok ch') := by
  cases a <;> cases hv2 : p.v2 <;> simp only [ackPacket, hv2, if_true, if_false, Bool.false_eq_true] at h
  all_goals first
    | cases h
    | (split at h
       · cases h
       · first
         | (injection h with h; left; exact ⟨rfl, h.symm⟩)
         | (right; exact ⟨Or.inl rfl, h⟩)
         | (right; exact ⟨Or.inr rfl, h⟩)
         | cases h)

theorem timeoutPacket_ok {cfg : Config} {c : Nat} {ch ch' : Chain} {p : Packet}
    (h : timeoutPacket cfg c ch p = .ok ch') :
    refundPacketTokens cfg c ch p.srcPort p.srcChan p.data = .ok ch' := by
  unfold timeoutPacket at h
  split at h
  · cases h
  · exact h

/-- A completed refunding callback for `p` (timeout; v1 error acknowledgement; v2 sentinel) ran
    `refundPacketTokens` on the sending chain, and changed nothing else in the chains. -/
theorem step_refund_ok {cfg : Config} {w w' : World} {op : Op} {p : Packet}
    (hop : match op with
      | .timeout q _ => q = p
      | .ack q a => q = p ∧ (a = .error ∨ a = .sentinel)
      | _ => False)
    (h : step cfg w op = (w', .ok)) :
    ∃ ch', refundPacketTokens cfg p.srcChain (w.chains p.srcChain) p.srcPort p.srcChan p.data = .ok ch' ∧
      w'.chains = (w.setChain p.srcChain ch').chains := by
  cases stepped_of_eq h with
  | fail _ hok => exact absurd rfl hok
  | timeout hto => cases hop; exact ⟨_, timeoutPacket_ok hto, rfl⟩
  | ack hak =>
    obtain ⟨rfl, ha⟩ := hop
    rcases ackPacket_ok hak with ⟨rfl, _⟩ | ⟨_, hr⟩
    · rcases ha with ha | ha <;> cases ha
    · exact ⟨_, hr, rfl⟩
  | setParams | bankSend => exact hop.elim

/-- who is debited by a step: the sender the message names (for a `MsgTransfer` in a transaction, also
    its signer), the sender of a bank send, or else an escrow account -/
def Payer (cfg : Config) (c : Nat) (a : Addr) : Op → Prop
  | .transfer c' signer viaTx m _ _ => c = c' ∧ cfg.decode m.sender = some a ∧ (viaTx = true → signer = m.sender)
  | .sendV2 c' signer _ data _ _ => c = c' ∧ cfg.decode signer = some a ∧ cfg.decode data.sender = some a
  | .bankSend c' f _ _ _ => c = c' ∧ a = f
  | _ => ∃ p ch, a = cfg.escrowAddr p ch

/-- who is credited by a step: the escrow account of the source channel end (sends), the packet's
    receiver (receive), the packet's sender (acknowledgement / timeout), the recipient of a bank send -/
def Payee (cfg : Config) (c : Nat) (a : Addr) : Op → Prop
  | .transfer c' _ _ m _ _ => c = c' ∧ a = cfg.escrowAddr transferPort m.chan
  | .sendV2 c' _ client _ _ _ => c = c' ∧ a = cfg.escrowAddr transferPort client
  | .recv p => c = p.dstChain ∧ cfg.decode p.data.receiver = some a
  | .ack p _ => c = p.srcChain ∧ cfg.decode p.data.sender = some a
  | .timeout p _ => c = p.srcChain ∧ cfg.decode p.data.sender = some a
  | .setParams _ _ _ => False
  | .bankSend c' _ to _ _ => c = c' ∧ a = to

/-- The four things a step can do to a bank: nothing; move `n` of a coin from a payer to a payee; mint `n`
    of a voucher to a payee; burn `n` of a voucher held by a payer. -/
inductive BankStep (cfg : Config) (c : Nat) (op : Op) (b b' : Bank) : Prop
  | same (hbal : b'.bal = b.bal) (hsup : b'.supply = b.supply)
  | move (f t : Addr) (k : Str) (n : Nat) (hn : n ≤ b.bal f k)
      (hbal : ∀ a x, b'.bal a x = moveBal b.bal f t k n a x) (hsup : b'.supply = b.supply)
      (hf : Payer cfg c f op) (ht : Payee cfg c t op)
  | mint (r : Addr) (D : Denom) (n : Nat) (hD : D.trace ≠ [])
      (hbal : ∀ a x, b'.bal a x = if x = D.ibcDenom cfg.hashHex ∧ a = r then b.bal a x + n else b.bal a x)
      (hsup : ∀ x, b'.supply x = if x = D.ibcDenom cfg.hashHex then b.supply x + n else b.supply x)
      (hr : Payee cfg c r op)
  | burn (s : Addr) (D : Denom) (n : Nat) (hD : D.trace ≠ [])
      (hn : n ≤ b.bal s (D.ibcDenom cfg.hashHex)) (hsn : n ≤ b.supply (D.ibcDenom cfg.hashHex))
      (hbal : ∀ a x, b'.bal a x = if x = D.ibcDenom cfg.hashHex ∧ a = s then b.bal a x - n else b.bal a x)
      (hsup : ∀ x, b'.supply x = if x = D.ibcDenom cfg.hashHex then b.supply x - n else b.supply x)
      (hs : Payer cfg c s op)

theorem BankStep.payer_payee {cfg : Config} {c : Nat} {op : Op} {b b' : Bank} (h : BankStep cfg c op b b')
    (a : Addr) (d : Str) :
    (b'.bal a d < b.bal a d → Payer cfg c a op) ∧ (b.bal a d < b'.bal a d → Payee cfg c a op) := by
  cases h with
  | same hbal =>
    rw [hbal]
    exact ⟨fun h => absurd h (Nat.lt_irrefl _), fun h => absurd h (Nat.lt_irrefl _)⟩
  | move f t k n hn hbal _ hf ht =>
    rw [hbal a d]
    exact ⟨fun h => (moveBal_lt h).1 ▸ hf, fun h => (moveBal_gt h).1 ▸ ht⟩
  | mint r D n _ hbal _ hr =>
    rw [hbal a d]
    refine ⟨fun h => ?_, fun h => ?_⟩ <;> split_ifs at h with hh
    · exact absurd h (by omega)
    · exact absurd h (Nat.lt_irrefl _)
    · exact hh.2 ▸ hr
    · exact absurd h (Nat.lt_irrefl _)
  | burn s D n _ _ _ hbal _ hs =>
    rw [hbal a d]
    refine ⟨fun h => ?_, fun h => ?_⟩ <;> split_ifs at h with hh
    · exact hh.2 ▸ hs
    · exact absurd h (Nat.lt_irrefl _)
    · exact absurd h (by omega)
    · exact absurd h (Nat.lt_irrefl _)

theorem trace_ne_nil_of_hasPrefix {d : Denom} {p c : Str} (h : d.hasPrefix p c = true) : d.trace ≠ [] := by
  intro e
  simp [Denom.hasPrefix, e] at h

theorem BankStep.of_sendTransfer {cfg : Config} {c : Nat} {op : Op} {ch ch' : Chain} {chan : Str} {tok : Denom}
    {n : Nat} {s : Addr} (h : sendTransfer cfg c ch transferPort chan tok n s = .ok ch')
    (hs : Payer cfg c s op) (he : Payee cfg c (cfg.escrowAddr transferPort chan) op) :
    BankStep cfg c op ch.bank ch'.bank := by
  obtain ⟨_, _, _, hn, hb⟩ := sendTransfer_effect h
  rcases hb with ⟨hp, hsn, hbal, hsup, _⟩ | ⟨_, hbal, hsup, _⟩
  · exact .burn s tok n (trace_ne_nil_of_hasPrefix hp) hn hsn hbal hsup hs
  · exact .move s _ _ n hn hbal hsup hs he

theorem BankStep.of_refund {cfg : Config} {c : Nat} {op : Op} {ch ch' : Chain} {sp sc : Str} {data : PacketData}
    (h : refundPacketTokens cfg c ch sp sc data = .ok ch')
    (hs : ∀ s, cfg.decode data.sender = some s → Payee cfg c s op) (he : Payer cfg c (cfg.escrowAddr sp sc) op) :
    BankStep cfg c op ch.bank ch'.bank := by
  obtain ⟨s, hds, _, _, _, hb⟩ := refund_effect h
  rcases hb with ⟨hp, hbal, hsup, _⟩ | ⟨_, hn, _, hbal, hsup, _⟩
  · exact .mint s _ _ (trace_ne_nil_of_hasPrefix hp) hbal hsup (hs s hds)
  · exact .move _ s _ _ hn hbal hsup he (hs s hds)

theorem Stepped.bankStep {cfg : Config} {w w' : World} {op : Op} {r : Res} (h : Stepped cfg w op w' r) (c : Nat) :
    BankStep cfg c op (w.chains c).bank (w'.chains c).bank := by
  by_cases hc : c = opChain op
  case neg => rw [h.other_chain hc]; exact .same rfl rfl
  cases h <;> simp only [opChain] at hc <;> subst hc <;> (try simp only [World.setChain, if_true])
  case fail => exact .same rfl rfl
  case transfer hsig ht =>
    obtain ⟨s, n, tok, hs, _, _, _, _, _, _, _, _, _, _, _, hst⟩ := transfer_ok ht
    rcases hst with ⟨_, hst⟩ | ⟨_, _, hst⟩ <;> exact .of_sendTransfer hst ⟨rfl, hs, hsig⟩ ⟨rfl, rfl⟩
  case sendV2 ht =>
    obtain ⟨s, hs, hs', _, _, _, _, _, _, _, _, _, _, hst⟩ := sendPacketV2_ok ht
    exact .of_sendTransfer hst ⟨rfl, hs, hs'⟩ ⟨rfl, rfl⟩
  case recv p _ _ hr =>
    rcases recvPacket_ok hr with ⟨_, hon⟩ | ⟨_, rfl⟩
    · obtain ⟨r, hr', _, _, _, hb⟩ := onRecvPacket_effect hon
      rcases hb with ⟨_, _, hn, _, hbal, hsup, _⟩ | ⟨hpF, _, hbal, hsup, _⟩
      · exact .move _ r _ _ hn hbal hsup ⟨_, _, rfl⟩ ⟨rfl, hr'⟩
      · rw [recvCoin_mint hpF] at hbal hsup
        exact .mint r _ _ (List.cons_ne_nil _ _) hbal hsup ⟨rfl, hr'⟩
    · exact .same rfl rfl
  case ack hak =>
    rcases ackPacket_ok hak with ⟨_, rfl⟩ | ⟨_, href⟩
    · exact .same rfl rfl
    · exact .of_refund href (fun s hs => ⟨rfl, hs⟩) ⟨_, _, rfl⟩
  case timeout hto => exact .of_refund (timeoutPacket_ok hto) (fun s hs => ⟨rfl, hs⟩) ⟨_, _, rfl⟩
  case setParams => exact .same rfl rfl
  case bankSend f t dn n b hb =>
    obtain ⟨hn, hsup, hbal⟩ := Bank.send_some hb
    exact .move f t dn n hn hbal hsup ⟨rfl, rfl⟩ ⟨rfl, rfl⟩

theorem step_bankStep (cfg : Config) (w : World) (op : Op) (c : Nat) :
    BankStep cfg c op (w.chains c).bank (((step cfg w op).1).chains c).bank :=
  (stepped cfg w op).bankStep c

end IbcVerif.Ics20
