/-
  Lemmas for the rate-limiting model (C41): the coupling invariant between the keeper state and the
  reference account (`SideInv` per direction, `PInv` per path, `GInv` for the store) and its preservation
  by every op, lifted to all histories by induction over the op list.  Every handler touches one path
  (`GInv.of_local`): send and receive are described by their outcomes (`sendPacket_cases`,
  `recvPacket_cases`), acknowledgement and timeout by their per-path ("local") form, the administrative
  handlers as chains of guards (`GInv.guard`).
-/
import IbcVerif.Model.RateLimitSpec
import IbcVerif.Lemmas.AppsKV
namespace IbcVerif.RateLimit
open IbcVerif.Apps

@[simp] theorem sumAmt_nil : sumAmt [] = 0 := rfl
@[simp] theorem sumAmt_cons (e : Nat × Int) (l) : sumAmt (e :: l) = e.2 + sumAmt l := by simp [sumAmt]
@[simp] theorem sumAmt_append (a b) : sumAmt (a ++ b) = sumAmt a + sumAmt b := by simp [sumAmt]

theorem sumAmt_filter_split (l : List (Nat × Int)) (seq : Nat) :
    sumAmt (l.filter (fun e => e.1 ≠ seq)) + sumAmt (l.filter (fun e => e.1 = seq)) = sumAmt l := by
  induction l with
  | nil => rfl
  | cons h t ih =>
    by_cases hh : h.1 = seq <;> simp [hh] at ih ⊢ <;> omega

theorem sumAmt_nonneg {l : List (Nat × Int)} (h : ∀ e ∈ l, 0 < e.2) : 0 ≤ sumAmt l := by
  induction l with
  | nil => simp
  | cons a t ih =>
    obtain ⟨h1, h2⟩ := List.forall_mem_cons.mp h
    have := ih h2
    rw [sumAmt_cons]
    omega

theorem filter_eq_of_nodup {l : List (Nat × Int)} {seq : Nat} {a : Int}
    (hn : (l.map (·.1)).Nodup) (hm : (seq, a) ∈ l) :
    l.filter (fun e => e.1 = seq) = [(seq, a)] := by
  induction l with
  | nil => cases hm
  | cons h t ih =>
    obtain ⟨hh, hn⟩ := List.nodup_cons.mp hn
    have hh : ∀ e ∈ t, e.1 ≠ h.1 := fun e he hc => hh (List.mem_map.mpr ⟨e, he, hc⟩)
    rcases List.mem_cons.mp hm with rfl | hm
    · simpa [List.filter_eq_nil_iff] using hh
    · simp [(hh _ hm).symm, ih hn hm]

/-- coupling of one direction: recorded flow and marker set vs. the reference lists -/
structure SideInv (evs : List (Nat × Int)) (flow : Int) (pend : List Nat) (sd : Side) : Prop where
  flow_eq : flow = sumAmt sd.opn + sumAmt sd.settled
  pend_iff : ∀ seq, seq ∈ pend ↔ ∃ amt, (seq, amt) ∈ sd.opn
  nodup : (sd.opn.map (·.1)).Nodup
  logged : ∀ e ∈ sd.opn, e ∈ evs
  pos_opn : ∀ e ∈ sd.opn, 0 < e.2
  pos_settled : ∀ e ∈ sd.settled, 0 < e.2

theorem SideInv.empty {evs} : SideInv evs 0 [] Side.empty := by
  constructor <;> simp [Side.empty]

theorem SideInv.mono {evs evs' flow pend sd} (h : SideInv evs flow pend sd) (hs : ∀ e ∈ evs, e ∈ evs') :
    SideInv evs' flow pend sd :=
  { h with logged := fun e he => hs e (h.logged e he) }

theorem SideInv.flow_accounting {evs flow pend sd} (h : SideInv evs flow pend sd) :
    flow = sd.accepted - sd.undoneSum ∧ 0 ≤ flow := by
  have := sumAmt_nonneg h.pos_opn
  have := sumAmt_nonneg h.pos_settled
  rw [h.flow_eq, Side.accepted, Side.undoneSum]
  omega

theorem SideInv.accept {evs flow pend sd} (h : SideInv evs flow pend sd) (seq : Nat) (amt : Int)
    (hpos : 0 < amt) (hfresh : ∀ a, (seq, a) ∉ evs) :
    SideInv ((seq, amt) :: evs) (flow + amt) (SetL.insert pend seq) (sd.accept seq amt) := by
  refine ⟨?_, fun s => ?_, ?_,
    List.forall_mem_cons.mpr ⟨List.mem_cons_self, fun e he => List.mem_cons_of_mem _ (h.logged e he)⟩,
    List.forall_mem_cons.mpr ⟨hpos, h.pos_opn⟩, h.pos_settled⟩
  · simp [Side.accept, h.flow_eq]; omega
  · simp [Side.accept, SetL.mem_insert, h.pend_iff, exists_or]
  · refine List.nodup_cons.mpr ⟨fun hc => ?_, h.nodup⟩
    obtain ⟨⟨_, a⟩, he, rfl⟩ := List.mem_map.mp hc
    exact hfresh a (h.logged _ he)

theorem SideInv.settle {evs flow pend sd} (h : SideInv evs flow pend sd) (seq : Nat) :
    SideInv evs flow (SetL.erase pend seq) (sd.settle seq) := by
  refine ⟨?_, fun s => ?_, h.nodup.sublist (List.Sublist.map _ List.filter_sublist),
    fun e he => h.logged e (List.filter_sublist.subset he), fun e he => h.pos_opn e (List.filter_sublist.subset he),
    List.forall_mem_append.mpr ⟨fun e he => h.pos_opn e (List.filter_sublist.subset he), h.pos_settled⟩⟩
  · have := sumAmt_filter_split sd.opn seq
    simp only [Side.settle, sumAmt_append]
    rw [h.flow_eq]; omega
  · simp [Side.settle, SetL.mem_erase, h.pend_iff]

/-- `UndoSendPacket` / `UndoReceivePacket` on one direction with the marker present: the packet is open
    with the amount logged; it leaves `opn` as in `settle`, and its amount leaves the flow. -/
theorem SideInv.undo_mem {evs flow pend sd} (h : SideInv evs flow pend sd) {seq : Nat} (hp : seq ∈ pend) {amt : Int}
    (hmatch : ∀ a, (seq, a) ∈ evs → a = amt) :
    SideInv evs (clamp0 (flow - amt)) (SetL.erase pend seq) (sd.undo seq) := by
  obtain ⟨a, ha⟩ := (h.pend_iff seq).mp hp
  rw [hmatch a (h.logged _ ha)] at ha
  have hs := h.settle seq
  have hsplit := sumAmt_filter_split sd.opn seq
  rw [filter_eq_of_nodup h.nodup ha] at hsplit
  simp only [sumAmt_cons, sumAmt_nil] at hsplit
  have hnn := sumAmt_nonneg hs.pos_opn
  have hnn2 := sumAmt_nonneg h.pos_settled
  refine ⟨?_, hs.pend_iff, hs.nodup, hs.logged, hs.pos_opn, h.pos_settled⟩
  simp only [Side.undo, Side.settle, clamp0] at hnn ⊢
  rw [h.flow_eq]
  split <;> omega

theorem SideInv.undo_not_mem {evs flow pend sd} (h : SideInv evs flow pend sd) {seq : Nat} (hp : seq ∉ pend) :
    SideInv evs flow pend (sd.undo seq) := by
  have hne : ∀ e ∈ sd.opn, e.1 ≠ seq := fun e he hc => hp ((h.pend_iff seq).mpr ⟨e.2, hc ▸ he⟩)
  have h1 : sd.opn.filter (fun e => e.1 ≠ seq) = sd.opn := List.filter_eq_self.mpr fun e he => by simpa using hne e he
  have h2 : sd.opn.filter (fun e => e.1 = seq) = [] := List.filter_eq_nil_iff.mpr fun e he => by simpa using hne e he
  rw [Side.undo, h1, h2]
  exact h

theorem path_setPath {s : State} {k : Path} {ps : PathState} (k' : Path) :
    (s.setPath k ps).path k' = if k = k' then ps else s.path k' := by
  simp only [State.path, State.setPath, KV.get_set]
  split <;> simp

@[simp] theorem setPath_blacklist (s : State) (k ps) : (s.setPath k ps).blacklist = s.blacklist := rfl
@[simp] theorem setPath_whitelist (s : State) (k ps) : (s.setPath k ps).whitelist = s.whitelist := rfl

theorem updateFlow_eq_some {l : Limit} {d : Dir} {amt : Int} {l' : Limit} (h : l.updateFlow d amt = some l') :
    l' = { l with flow := match (generalizing := false) d with
      | .send => { l.flow with outflow := l.flow.outflow + amt }
      | .recv => { l.flow with inflow := l.flow.inflow + amt } } := by
  cases d <;> simp only [Limit.updateFlow, Flow.addOutflow, Flow.addInflow] at h <;> split at h <;> simp at h
  all_goals exact h.symm

/-- `UpdateFlow` fails exactly when the quota check does: the channel value is non-zero and the net flow
    in the packet's direction, the packet included, exceeds its share (C41's `WithinQuota`, negated). -/
theorem updateFlow_eq_none (l : Limit) (d : Dir) (amt : Int) :
    l.updateFlow d amt = none ↔
      ¬ (l.flow.chanValue = 0 ∨
        match d with
        | .send => l.flow.outflow - l.flow.inflow + amt ≤ (l.flow.chanValue * l.quota.maxSend).tdiv 100
        | .recv => l.flow.inflow - l.flow.outflow + amt ≤ (l.flow.chanValue * l.quota.maxRecv).tdiv 100) := by
  by_cases h0 : l.flow.chanValue = 0 <;> cases d <;>
    simp [Limit.updateFlow, Flow.addOutflow, Flow.addInflow, checkExceedsQuota, h0]

theorem checkAndUpdate_cases (s : State) (d : Dir) (p : Pkt) :
    (∃ r, r ≠ .counted ∧ checkAndUpdate s d p = .error r) ∨ checkAndUpdate s d p = .ok (s, false) ∨
    ∃ l l', (s.path p.path).limit = some l ∧ l.updateFlow d p.amt = some l' ∧
      checkAndUpdate s d p = .ok (s.setPath p.path { s.path p.path with limit := some l' }, true) := by
  unfold checkAndUpdate
  by_cases hb : p.denom ∈ s.blacklist
  · exact .inl ⟨_, by decide, if_pos hb⟩
  rw [if_neg hb]
  dsimp only
  cases hl : (s.path p.path).limit with
  | none => exact .inr (.inl rfl)
  | some l =>
    by_cases hw : (p.sender, p.receiver) ∈ s.whitelist
    · exact .inr (.inl (by simp only [hw, if_true]))
    cases hu : l.updateFlow d p.amt with
    | none => exact .inl ⟨.quota, by decide, by simp only [hw, if_false, hu]⟩
    | some l' => exact .inr (.inr ⟨l, l', rfl, hu, by simp only [hw, if_false, hu]⟩)

theorem sendPacket_cases (s : State) (p : Pkt) :
    ((sendPacket s p).2 ≠ .counted ∧ (sendPacket s p).1 = s) ∨
    ∃ l, (s.path p.path).limit = some l ∧ (sendPacket s p).2 = .counted ∧
      ∀ k, (sendPacket s p).1.path k =
        if p.path = k then
          ⟨some { l with flow := { l.flow with outflow := l.flow.outflow + p.amt } },
           SetL.insert (s.path p.path).pendSend p.seq, (s.path p.path).pendRecv⟩
        else s.path k := by
  unfold sendPacket
  rcases checkAndUpdate_cases s .send p with ⟨r, hr, h⟩ | h | ⟨l, l', hl, hu, h⟩ <;> rw [h]
  · exact .inl ⟨hr, rfl⟩
  · exact .inl ⟨nofun, rfl⟩
  · obtain rfl := updateFlow_eq_some hu
    refine .inr ⟨l, hl, rfl, fun k => ?_⟩
    simp only [path_setPath]
    split <;> rfl

/-- The receive transaction ends in an error acknowledgement and changes nothing; or the packet passes
    unrecorded (a synchronous success still deletes its marker); or it is counted: the amount joins the
    inflow and the marker stays until the acknowledgement is known. -/
theorem recvPacket_cases (s : State) (p : Pkt) (app : AppAck) :
    ((recvPacket s p app).2.2 = .error ∧ (recvPacket s p app).1 = s) ∨
    ((recvPacket s p app).2 = (.passed, app) ∧
      ∀ k, (recvPacket s p app).1.path k =
        if p.path = k then
          if app = .success then { s.path p.path with pendRecv := SetL.erase (s.path p.path).pendRecv p.seq }
          else s.path p.path
        else s.path k) ∨
    ∃ l, (s.path p.path).limit = some l ∧ app ≠ .error ∧ (recvPacket s p app).2 = (.counted, app) ∧
      ∀ k, (recvPacket s p app).1.path k =
        if p.path = k then
          ⟨some { l with flow := { l.flow with inflow := l.flow.inflow + p.amt } }, (s.path p.path).pendSend,
           if app = .success then SetL.erase (SetL.insert (s.path p.path).pendRecv p.seq) p.seq
           else SetL.insert (s.path p.path).pendRecv p.seq⟩
        else s.path k := by
  unfold recvPacket mwRecv
  rcases checkAndUpdate_cases s .recv p with ⟨r, hr, h⟩ | h | ⟨l, l', hl, hu, h⟩ <;> rw [h]
  · exact .inl ⟨rfl, rfl⟩
  · cases app
    case error => exact .inl ⟨rfl, rfl⟩
    all_goals
      refine .inr (.inl ⟨rfl, fun k => ?_⟩)
      by_cases hk : p.path = k <;> simp [hk, path_setPath]
  · obtain rfl := updateFlow_eq_some hu
    cases app
    case error => exact .inl ⟨rfl, rfl⟩
    all_goals
      refine .inr (.inr ⟨l, hl, by decide, rfl, fun k => ?_⟩)
      by_cases hk : p.path = k <;> simp [hk, path_setPath]

/-- The per-path ("local", suffix `L`) forms: what `undoSend`, `undoRecv`, `ackPacket`, `writeAck` do to the
    `PathState` of the packet's path; every other path is left alone (`ackPacket_local`, `writeAck_local`),
    so the invariant is proved on one `PathState` and lifted by `GInv.of_local`. -/
def undoSendL (ps : PathState) (seq : Nat) (amt : Int) : PathState :=
  match ps.limit with
  | none => { ps with pendSend := SetL.erase ps.pendSend seq }
  | some l =>
    if seq ∈ ps.pendSend then
      ⟨some { l with flow := { l.flow with outflow := clamp0 (l.flow.outflow - amt) } }, SetL.erase ps.pendSend seq, ps.pendRecv⟩
    else ps

def undoRecvL (ps : PathState) (seq : Nat) (amt : Int) : PathState :=
  match ps.limit with
  | none => { ps with pendRecv := SetL.erase ps.pendRecv seq }
  | some l =>
    if seq ∈ ps.pendRecv then
      ⟨some { l with flow := { l.flow with inflow := clamp0 (l.flow.inflow - amt) } }, ps.pendSend, SetL.erase ps.pendRecv seq⟩
    else ps

def ackL (ps : PathState) (seq : Nat) (amt : Int) (ok : Bool) : PathState :=
  if ok then { ps with pendSend := SetL.erase ps.pendSend seq } else undoSendL ps seq amt

def writeAckL (ps : PathState) (seq : Nat) (amt : Int) (ok : Bool) : PathState :=
  if ok then { ps with pendRecv := SetL.erase ps.pendRecv seq } else undoRecvL ps seq amt

theorem ackL_not_pend {ps : PathState} {seq : Nat} {amt : Int} {ok : Bool} : seq ∉ (ackL ps seq amt ok).pendSend := by
  unfold ackL undoSendL
  cases ok
  · by_cases hm : seq ∈ ps.pendSend <;> cases ps.limit <;> simp [SetL.mem_erase, hm]
  · simp [SetL.mem_erase]

theorem undoSendL_limit {ps : PathState} {seq : Nat} (h : seq ∉ ps.pendSend) (amt : Int) :
    (undoSendL ps seq amt).limit = ps.limit := by
  unfold undoSendL
  split
  · rfl
  · rw [if_neg h]

theorem ackPacket_local {s : State} {p : Pkt} {ok : Bool} (k : Path) :
    (ackPacket s p ok).path k = if p.path = k then ackL (s.path p.path) p.seq p.amt ok else s.path k := by
  unfold ackPacket ackL undoSend undoSendL
  cases ok
  · cases hl : (s.path p.path).limit with
    | none => simp only [hl, Bool.false_eq_true, if_false, path_setPath]
    | some l =>
      by_cases hm : p.seq ∈ (s.path p.path).pendSend <;>
        simp only [hl, hm, Bool.false_eq_true, if_true, if_false, path_setPath]
      split <;> simp [*]
  · simp only [↓reduceIte, path_setPath]

theorem writeAck_local {s : State} {p : Pkt} {ok : Bool} (k : Path) :
    (writeAck s p ok).path k = if p.path = k then writeAckL (s.path p.path) p.seq p.amt ok else s.path k := by
  unfold writeAck writeAckL undoRecv undoRecvL
  cases ok
  · cases hl : (s.path p.path).limit with
    | none => simp only [hl, Bool.false_eq_true, if_false, path_setPath]
    | some l =>
      by_cases hm : p.seq ∈ (s.path p.path).pendRecv <;>
        simp only [hl, hm, Bool.false_eq_true, if_true, if_false, path_setPath]
      split <;> simp [*]
  · simp only [↓reduceIte, path_setPath]

theorem beginBlock_local (s : State) (t : Int) (sup : List (String × Int)) (k : Path) :
    (beginBlock s t sup).1.path k =
      if (beginBlock s t sup).2 ∧ (s.path k).dueAt (s.epochNum + 1) then (s.path k).reset (supplyOf sup k.1) else s.path k := by
  unfold beginBlock
  by_cases h1 : s.epochDur = 0
  · simp [h1]
  · by_cases h2 : t > s.epochStart + s.epochDur
    · simp only [h1, h2, if_true, if_false, true_and]
      unfold State.path
      simp only [KV.get_mapVals]
      cases KV.get s.paths k <;> rfl
    · simp [h1, h2]

/-- coupling of one path: keeper state vs. reference window -/
def PInv (eo ei : List (Nat × Int)) (ps : PathState) (w : Option Window) : Prop :=
  match ps.limit, w with
  | none, none => ps.pendSend = [] ∧ ps.pendRecv = []
  | some l, some w =>
    SideInv eo l.flow.outflow ps.pendSend w.out ∧ SideInv ei l.flow.inflow ps.pendRecv w.inn ∧
      l.flow.chanValue = w.startValue
  | _, _ => False

theorem PInv.mono {eo ei eo' ei' ps w} (h : PInv eo ei ps w) (ho : ∀ e ∈ eo, e ∈ eo') (hi : ∀ e ∈ ei, e ∈ ei') :
    PInv eo' ei' ps w := by
  unfold PInv at *
  split at h
  · exact h
  · exact ⟨h.1.mono ho, h.2.1.mono hi, h.2.2⟩
  · exact h

theorem PInv.of_limit {eo ei ps w l} (h : PInv eo ei ps w) (hl : ps.limit = some l) :
    ∃ w0, w = some w0 ∧ SideInv eo l.flow.outflow ps.pendSend w0.out ∧
      SideInv ei l.flow.inflow ps.pendRecv w0.inn ∧ l.flow.chanValue = w0.startValue := by
  unfold PInv at h
  rw [hl] at h
  cases w with
  | none => exact h.elim
  | some w0 => exact ⟨w0, rfl, h⟩

theorem PInv.of_no_limit {eo ei ps w} (h : PInv eo ei ps w) (hl : ps.limit = none) :
    w = none ∧ ps.pendSend = [] ∧ ps.pendRecv = [] := by
  unfold PInv at h
  rw [hl] at h
  cases w with
  | none => exact ⟨rfl, h⟩
  | some w0 => exact h.elim

theorem PInv.erase_fresh {eo ei ps w} (h : PInv eo ei ps w) {seq : Nat} (hfresh : ∀ a, (seq, a) ∉ ei) :
    PInv eo ei { ps with pendRecv := SetL.erase ps.pendRecv seq } w := by
  have hn : seq ∉ ps.pendRecv := by
    cases hl : ps.limit with
    | none => rw [(h.of_no_limit hl).2.2]; exact List.not_mem_nil
    | some l =>
      obtain ⟨w0, _, _, hi, _⟩ := h.of_limit hl
      exact fun hp => (hi.pend_iff seq).mp hp |>.elim fun a ha => hfresh a (hi.logged _ ha)
  have : SetL.erase ps.pendRecv seq = ps.pendRecv :=
    List.filter_eq_self.mpr fun b hb => by simpa using fun (hc : b = seq) => hn (hc ▸ hb)
  rw [this]
  exact h

/-- `AcknowledgeRateLimitedPacket`; `ok = false` is also `TimeoutRateLimitedPacket`. -/
theorem PInv.ack {eo ei ps w} (h : PInv eo ei ps w) (seq : Nat) (amt : Int) (ok : Bool)
    (hmatch : ∀ a, (seq, a) ∈ eo → a = amt) :
    PInv eo ei (ackL ps seq amt ok)
      (w.map fun w => { w with out := if ok then w.out.settle seq else w.out.undo seq }) := by
  obtain ⟨lim, pS, pR⟩ := ps
  cases lim with
  | none =>
    obtain ⟨rfl, rfl, rfl⟩ := h.of_no_limit rfl
    cases ok <;> exact ⟨rfl, rfl⟩
  | some l =>
    obtain ⟨w0, rfl, ho, hi, hv⟩ := h.of_limit rfl
    cases ok
    · show PInv eo ei (if seq ∈ pS then _ else _) _
      split
      · exact ⟨ho.undo_mem ‹_› hmatch, hi, hv⟩
      · exact ⟨ho.undo_not_mem ‹_›, hi, hv⟩
    · exact ⟨ho.settle seq, hi, hv⟩

theorem PInv.writeAck {eo ei ps w} (h : PInv eo ei ps w) (seq : Nat) (amt : Int) (ok : Bool)
    (hmatch : ∀ a, (seq, a) ∈ ei → a = amt) :
    PInv eo ei (writeAckL ps seq amt ok)
      (w.map fun w => { w with inn := if ok then w.inn.settle seq else w.inn.undo seq }) := by
  obtain ⟨lim, pS, pR⟩ := ps
  cases lim with
  | none =>
    obtain ⟨rfl, rfl, rfl⟩ := h.of_no_limit rfl
    cases ok <;> exact ⟨rfl, rfl⟩
  | some l =>
    obtain ⟨w0, rfl, ho, hi, hv⟩ := h.of_limit rfl
    cases ok
    · show PInv eo ei (if seq ∈ pR then _ else _) _
      split
      · exact ⟨ho, hi.undo_mem ‹_› hmatch, hv⟩
      · exact ⟨ho, hi.undo_not_mem ‹_›, hv⟩
    · exact ⟨ho, hi.settle seq, hv⟩

theorem PInv.fresh {eo ei : List (Nat × Int)} (q : Quota) (v : Int) :
    PInv eo ei ⟨some ⟨q, ⟨0, 0, v⟩⟩, [], []⟩ (some (Window.fresh v)) :=
  ⟨SideInv.empty, SideInv.empty, rfl⟩

/-- `updateLimit` and `removeLimit` on the `PathState` of their path -/
def updateL (ps : PathState) (q : Quota) (supply : Int) : PathState × Res :=
  if ps.limit.isNone then (ps, .notFound) else (⟨some ⟨q, ⟨0, 0, supply⟩⟩, [], []⟩, .done)

def removeL (ps : PathState) : PathState × Res :=
  if ps.limit.isNone then (ps, .notFound) else (PathState.empty, .done)

theorem PInv.update {eo ei ps w} (h : PInv eo ei ps w) (q : Quota) (v : Int) :
    PInv eo ei (updateL ps q v).1 (if (updateL ps q v).2 = .done then some (Window.fresh v) else w) := by
  unfold updateL
  by_cases h2 : ps.limit.isNone
  · simpa [h2] using h
  · simpa [h2] using PInv.fresh q v

theorem PInv.remove {eo ei ps w} (h : PInv eo ei ps w) :
    PInv eo ei (removeL ps).1 (if (removeL ps).2 = .done then none else w) := by
  unfold removeL
  by_cases h2 : ps.limit.isNone
  · simpa [h2] using h
  · simp [h2, PInv, PathState.empty]

theorem PInv.resetPath {eo ei : List (Nat × Int)} {ps : PathState} (hl : ¬ ps.limit.isNone = true) (v : Int) :
    PInv eo ei (ps.reset v) (some (Window.fresh v)) := by
  unfold PathState.reset
  cases hl' : ps.limit with
  | none => simp [hl'] at hl
  | some l => exact PInv.fresh l.quota v

theorem get_modify {r : Ref} {k : Path} {f : Window → Window} (k' : Path) :
    KV.get (r.modify k f) k' = if k = k' then (KV.get r k).map f else KV.get r k' := by
  unfold Ref.modify
  by_cases hk : k = k'
  · subst hk
    cases hg : KV.get r k <;> simp [KV.get_set, hg]
  · cases hg : KV.get r k <;> simp [KV.get_set, hk]

theorem sendEvs_append (k : Path) (a b : List Op) : sendEvs k (a ++ b) = sendEvs k a ++ sendEvs k b := by
  induction a with
  | nil => rfl
  | cons h t ih =>
    cases h with
    | send p =>
      simp only [List.cons_append, sendEvs, ih]
      split <;> rfl
    | _ => exact ih

theorem recvEvs_append (k : Path) (a b : List Op) : recvEvs k (a ++ b) = recvEvs k a ++ recvEvs k b := by
  induction a with
  | nil => rfl
  | cons h t ih =>
    cases h with
    | recv p app =>
      simp only [List.cons_append, recvEvs, ih]
      split <;> rfl
    | _ => exact ih

theorem sendEvs_subset {k : Path} {a b : List Op} : ∀ e ∈ sendEvs k a, e ∈ sendEvs k (a ++ b) :=
  fun _ he => sendEvs_append k a b ▸ List.mem_append_left _ he

theorem recvEvs_subset {k : Path} {a b : List Op} : ∀ e ∈ recvEvs k a, e ∈ recvEvs k (a ++ b) :=
  fun _ he => recvEvs_append k a b ▸ List.mem_append_left _ he

theorem Ref.step_recv (r : Ref) (s : State) (p : Pkt) (app : AppAck) :
    Ref.step r s (.recv p app) =
      if (recvPacket s p app).2.1 = .counted ∧ (recvPacket s p app).2.2 ≠ .error then
        r.modify p.path fun w =>
          { w with inn := if (recvPacket s p app).2.2 = .success then (w.inn.accept p.seq p.amt).settle p.seq
                          else w.inn.accept p.seq p.amt }
      else r := by
  simp only [Ref.step]

/-- the global coupling invariant: every path's keeper state matches its reference window -/
def GInv (ops : List Op) (s : State) (r : Ref) : Prop :=
  ∀ k, PInv (sendEvs k ops) (recvEvs k ops) (s.path k) (KV.get r k)

theorem PInv.grow {k pre ps w post} (h : PInv (sendEvs k pre) (recvEvs k pre) ps w) :
    PInv (sendEvs k (pre ++ post)) (recvEvs k (pre ++ post)) ps w :=
  h.mono sendEvs_subset recvEvs_subset

theorem GInv.grow {pre s r post} (h : GInv pre s r) : GInv (pre ++ post) s r :=
  fun k => (h k).grow

/-- An op that acts on one path `k0` only, in the keeper state and in the reference account, preserves
    the coupling if it does so at `k0`: elsewhere the logs only grow. -/
theorem GInv.of_local {pre s s' r r' op} (h : GInv pre s r) (k0 : Path) {ps' w'}
    (hs : ∀ k, s'.path k = if k0 = k then ps' else s.path k)
    (hr : ∀ k, KV.get r' k = if k0 = k then w' else KV.get r k)
    (h0 : PInv (sendEvs k0 (pre ++ [op])) (recvEvs k0 (pre ++ [op])) ps' w') :
    GInv (pre ++ [op]) s' r' := by
  intro k
  rw [hs, hr]
  split
  · exact ‹k0 = k› ▸ h0
  · exact (h k).grow

/-- The administrative handlers are chains of guards: a guard that fires refuses (`e ≠ .done`) and changes
    neither the store nor the reference account. -/
theorem GInv.guard {pre s r op} (h : GInv pre s r) {c : Prop} [Decidable c]
    {e : Res} (he : e ≠ .done) {y : State × Res} {r1 : Ref}
    (hy : ¬ c → GInv (pre ++ [op]) y.1 (if y.2 = .done then r1 else r)) :
    GInv (pre ++ [op]) (if c then (s, e) else y).1 (if (if c then (s, e) else y).2 = .done then r1 else r) := by
  by_cases hc : c
  · rw [if_pos hc, if_neg he]
    exact h.grow
  · rw [if_neg hc]
    exact hy hc

theorem GInv.step {pre s r op} (h : GInv pre s r) (hok : OpOK pre op) :
    GInv (pre ++ [op]) (step s op).1 (Ref.step r s op) := by
  cases op with
  | send p =>
    rcases sendPacket_cases s p with ⟨hres, hs⟩ | ⟨l, hl, hres, hs⟩
    · simp only [RateLimit.step, Ref.step, hs, if_neg hres]
      exact h.grow
    · refine h.of_local p.path hs (fun k => by simp only [Ref.step, hres, if_true]; exact get_modify k) ?_
      obtain ⟨w0, hw, ho, hi, hv⟩ := (h p.path).of_limit hl
      rw [hw]
      refine ⟨(ho.accept p.seq p.amt hok.1 hok.2).mono fun e he => ?_, hi.mono recvEvs_subset, hv⟩
      simpa [sendEvs_append, sendEvs] using (List.mem_cons.mp he).symm
  | recv p app =>
    rw [Ref.step_recv]
    rcases recvPacket_cases s p app with ⟨ha, hs⟩ | ⟨hres, hs⟩ | ⟨l, hl, happ, hres, hs⟩
    · rw [if_neg fun hc => hc.2 ha]
      simp only [RateLimit.step, hs]
      exact h.grow
    · rw [hres, if_neg fun hc => nomatch hc.1]
      refine h.of_local p.path hs (w' := KV.get r p.path) (fun k => by split <;> simp [*]) (PInv.grow ?_)
      split
      · exact (h p.path).erase_fresh hok.2
      · exact h p.path
    · rw [hres, if_pos ⟨rfl, happ⟩]
      refine h.of_local p.path hs get_modify ?_
      obtain ⟨w0, hw, ho, hi, hv⟩ := (h p.path).of_limit hl
      have hi' := (hi.accept p.seq p.amt (hok.1 happ) hok.2).mono (evs' := recvEvs p.path (pre ++ [.recv p app]))
        fun e he => by simpa [recvEvs_append, recvEvs] using (List.mem_cons.mp he).symm
      rw [hw]
      cases app
      · exact ⟨ho.mono sendEvs_subset, hi'.settle p.seq, hv⟩
      · exact absurd rfl happ
      · exact ⟨ho.mono sendEvs_subset, hi', hv⟩
  | ack p ok =>
    exact h.of_local p.path ackPacket_local get_modify ((h p.path).ack p.seq p.amt ok hok).grow
  | timeout p =>
    exact h.of_local p.path (ackPacket_local (ok := false)) get_modify ((h p.path).ack p.seq p.amt false hok).grow
  | writeAck p ok =>
    exact h.of_local p.path writeAck_local get_modify ((h p.path).writeAck p.seq p.amt ok hok).grow
  | beginBlock t sup =>
    intro k
    refine PInv.grow ?_
    simp only [RateLimit.step, Ref.step, beginBlock_local]
    by_cases hb : (beginBlock s t sup).2 = true
    · simp only [hb, if_true, true_and, KV.get_mapVals]
      by_cases hd : (s.path k).dueAt (s.epochNum + 1) = true
      · simp only [hd, if_true]
        cases hl : (s.path k).limit with
        | none => simp [PathState.dueAt, hl] at hd
        | some l =>
          obtain ⟨w0, hw, _⟩ := (h k).of_limit hl
          rw [hw]
          exact PInv.resetPath (by simp [hl]) _
      · simpa [hd] using h k
    · simpa [hb] using h k
  | add k0 q v e =>
    refine h.guard (by decide) fun _ => h.guard (by decide) fun hs => h.guard (by decide) fun _ =>
      h.of_local k0 path_setPath (KV.get_set r k0 · _) ?_
    obtain ⟨_, h1, h2⟩ := (h k0).of_no_limit (by simpa using hs)
    rw [h1, h2]
    exact PInv.fresh q v
  | update k0 q v =>
    exact h.guard (by decide) fun _ =>
      h.of_local k0 path_setPath (KV.get_set r k0 · _) (PInv.fresh q v)
  | remove k0 =>
    exact h.guard (by decide) fun _ =>
      h.of_local k0 path_setPath (KV.get_erase r k0) (w' := none) ⟨rfl, rfl⟩
  | reset k0 v =>
    exact h.guard (by decide) fun hc =>
      h.of_local k0 path_setPath (KV.get_set r k0 · _) (PInv.resetPath hc v)
  | setBlacklist d on => exact h.grow
  | setWhitelist a b on => exact h.grow

theorem runBoth_fst (s : State) (r : Ref) (ops : List Op) : (runBoth s r ops).1 = run s ops :=
  (List.foldl_hom Prod.fst fun _ _ => rfl).symm

theorem GInv.init (n : Nat) (st d : Int) : GInv [] (State.init n st d) [] := by
  intro k
  simp [PInv, State.init, State.path, KV.get, PathState.empty]

theorem GInv.run_from {pre s r} (ops : List Op) (h : GInv pre s r) (hwf : WF (pre ++ ops)) :
    GInv (pre ++ ops) (runBoth s r ops).1 (runBoth s r ops).2 := by
  induction ops generalizing pre s r with
  | nil => simpa [runBoth] using h
  | cons op t ih => simpa [runBoth] using ih (h.step (hwf pre op t rfl)) (by simpa using hwf)

theorem GInv.run (n : Nat) (st d : Int) (ops : List Op) (hwf : WF ops) :
    GInv ops (run (State.init n st d) ops) (runBoth (State.init n st d) [] ops).2 :=
  runBoth_fst .. ▸ GInv.run_from ops (GInv.init n st d) hwf

/-! ### a decidable check of `WF` for concrete histories (non-vacuity examples) -/

def opOKb (pre : List Op) : Op → Bool
  | .send p => decide (0 < p.amt) && (sendEvs p.path pre).all (fun e => e.1 != p.seq)
  | .recv p app => (app == .error || decide (0 < p.amt)) && (recvEvs p.path pre).all (fun e => e.1 != p.seq)
  | .ack p _ => (sendEvs p.path pre).all (fun e => e.1 != p.seq || e.2 == p.amt)
  | .timeout p => (sendEvs p.path pre).all (fun e => e.1 != p.seq || e.2 == p.amt)
  | .writeAck p _ => (recvEvs p.path pre).all (fun e => e.1 != p.seq || e.2 == p.amt)
  | _ => true

theorem opOKb_sound {pre : List Op} {op : Op} (h : opOKb pre op = true) : OpOK pre op := by
  cases op <;> simp only [opOKb, OpOK, Bool.and_eq_true, Bool.or_eq_true, decide_eq_true_eq, List.all_eq_true,
    bne_iff_ne, ne_eq, beq_iff_eq] at h ⊢
  · exact ⟨h.1, fun a ha => h.2 _ ha rfl⟩
  · exact ⟨fun hne => h.1.resolve_left hne, fun a ha => h.2 _ ha rfl⟩
  all_goals exact fun a ha => (h _ ha).resolve_left (· rfl)

def wfb (pre : List Op) : List Op → Bool
  | [] => true
  | op :: t => opOKb pre op && wfb (pre ++ [op]) t

theorem wfb_sound {pre ops pre' post : List Op} {op : Op} (h : wfb pre ops = true) (heq : ops = pre' ++ op :: post) :
    OpOK (pre ++ pre') op := by
  induction ops generalizing pre pre' with
  | nil => simp at heq
  | cons o t ih =>
    simp only [wfb, Bool.and_eq_true] at h
    cases pre' with
    | nil =>
      obtain ⟨rfl, rfl⟩ := List.cons.inj heq
      simpa using opOKb_sound h.1
    | cons o' pre'' =>
      obtain ⟨rfl, ht⟩ := List.cons.inj heq
      simpa using ih h.2 ht

theorem WF_of_wfb (ops : List Op) (h : wfb [] ops = true) : WF ops := by
  intro pre op post heq
  simpa using wfb_sound h heq

end IbcVerif.RateLimit
