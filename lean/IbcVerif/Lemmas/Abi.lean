/-
  Model/Abi.lean, the tuple coder (go-ethereum `Arguments.Pack` / `Unpack`): `toGo` reads a static component from its
  head word at `i*32` and a dynamic one from the tail its offset word points to; hence `unpackWrapped (packWrapped vs)`
  returns `vs`, and every decoder step is `G.NoPanic` on every input.
-/
import IbcVerif.Lemmas.AbiBytes
namespace IbcVerif.Abi
open IbcVerif

/-- value `v` is representable in component type `t` -/
def fits : FTy → FVal → Prop
  | .uint256, .num n => n < 2 ^ 256
  | .uint64, .num n => n < 2 ^ 64
  | .dyn, .dyn _ => True
  | _, _ => False

def Fits : List FTy → List FVal → Prop
  | [], [] => True
  | t :: ts, v :: vs => fits t v ∧ Fits ts vs
  | _, _ => False

theorem Fits_length : ∀ {ts vs}, Fits ts vs → ts.length = vs.length
  | [], [], _ => rfl
  | _ :: ts, _ :: vs, h => by simp [Fits_length h.2]
  | [], _ :: _, h => h.elim
  | _ :: _, [], h => h.elim

theorem encHeads_length (vs : List FVal) (off : Nat) : (encHeads vs off).length = 32 * vs.length := by
  induction vs generalizing off with
  | nil => rfl
  | cons v vs ih =>
    cases v <;> simp [encHeads, word_length, ih] <;> omega

theorem toGo_num (t : FTy) (n : Nat) (out : Bytes) (idx : Nat) (hf : fits t (.num n)) (h : HasAt out idx (word n)) :
    toGo idx t out = .ok (.num n) := by
  have hle := h.le
  rw [word_length] at hle
  have hs := h.slice (idx + 32) (by rw [word_length])
  unfold toGo
  rw [if_neg (by omega)]
  cases t with
  | uint256 => simp only [hs, G.bind_ok, beNat_word n hf]
  | uint64 =>
    have hn : n < 2 ^ 64 := hf
    dsimp only
    rw [hs, G.bind_ok, beNat_word n (Nat.lt_trans hn (by decide)), if_neg (Nat.not_le_of_lt hn)]
  | dyn => exact hf.elim

theorem lpp_enc (out : Bytes) (idx off len : Nat) (h1 : HasAt out idx (word off)) (h2 : HasAt out off (word len))
    (hl : off + 32 + len ≤ out.length) (h63 : out.length < 2 ^ 63) :
    lengthPrefixPointsTo idx out = .ok (off + 32, len) := by
  have hoff : off < 2 ^ 256 := Nat.lt_trans (show off < 2 ^ 63 by omega) (by decide)
  have hlen : len < 2 ^ 256 := Nat.lt_trans (show len < 2 ^ 63 by omega) (by decide)
  unfold lengthPrefixPointsTo
  rw [h1.slice _ (by rw [word_length]), G.bind_ok, beNat_word off hoff]
  dsimp only
  rw [if_neg (by omega), if_neg (by omega), Nat.add_sub_cancel, h2.slice _ (by rw [word_length]), G.bind_ok, beNat_word len hlen,
    if_neg (by omega), if_neg (by omega)]

theorem toGo_dyn (b out : Bytes) (idx off : Nat) (h1 : HasAt out idx (word off)) (h2 : HasAt out off (encDyn b))
    (h63 : out.length < 2 ^ 63) : toGo idx .dyn out = .ok (.dyn b) := by
  have hle := h1.le
  unfold encDyn rightPad at h2
  have hb := h2.right.left
  have hble := hb.le
  rw [word_length] at hle hb hble
  unfold toGo
  rw [if_neg (by omega)]
  simp only [lpp_enc out idx off b.length h1 h2.left hble h63, G.bind_ok, hb.slice _ rfl]

theorem unpackFields_enc (out : Bytes) (h63 : out.length < 2 ^ 63) : ∀ (ts : List FTy) (vs : List FVal) (i off : Nat),
    Fits ts vs → HasAt out (i * 32) (encHeads vs off) → HasAt out off (encTails vs) →
    unpackFields ts i out = .ok vs
  | [], [], _, _, _, _, _ => rfl
  | [], _ :: _, _, _, h, _, _ => h.elim
  | _ :: _, [], _, _, h, _, _ => h.elim
  | t :: ts, v :: vs, i, off, hf, hH, hT => by
    rw [encTails, List.flatMap_cons] at hT
    cases v with
    | num n =>
      have hH' := hH.right (a := word n)
      rw [word_length, ← Nat.succ_mul] at hH'
      rw [unpackFields, toGo_num t n out _ hf.1 hH.left, unpackFields_enc out h63 ts vs (i + 1) off hf.2 hH' hT]
      rfl
    | dyn b =>
      have ht : t = .dyn := by cases t <;> first | rfl | exact hf.1.elim
      have hH' := hH.right (a := word off)
      rw [word_length, ← Nat.succ_mul] at hH'
      rw [unpackFields, ht, toGo_dyn b out _ off hH.left hT.left h63,
        unpackFields_enc out h63 ts vs (i + 1) _ hf.2 hH' hT.right]
      rfl

theorem lpp_noPanic (index : Nat) (out : Bytes) (h : index + 32 ≤ out.length) :
    G.NoPanic (lengthPrefixPointsTo index out) :=
  G.noPanic_slice (by omega) h <| G.noPanic_ite_err fun _ => G.noPanic_ite_err fun _ =>
    G.noPanic_slice (by omega) (by omega) <| G.noPanic_ite_err fun _ => G.noPanic_ite_err fun _ => G.noPanic_ok _

theorem lpp_bounds {index : Nat} {out : Bytes} {b l : Nat} (h : lengthPrefixPointsTo index out = .ok (b, l)) :
    32 ≤ b ∧ b + l ≤ out.length := by
  unfold lengthPrefixPointsTo at h
  obtain ⟨w, -, h⟩ := G.bind_eq_ok h
  obtain ⟨-, h⟩ := G.ite_err_eq_ok h
  obtain ⟨-, h⟩ := G.ite_err_eq_ok h
  obtain ⟨lw, -, h⟩ := G.bind_eq_ok h
  obtain ⟨-, h⟩ := G.ite_err_eq_ok h
  obtain ⟨c, h⟩ := G.ite_err_eq_ok h
  cases h
  exact ⟨Nat.le_add_left _ _, Nat.le_of_not_lt c⟩

theorem toGo_noPanic (index : Nat) (t : FTy) (out : Bytes) : G.NoPanic (toGo index t out) := by
  unfold toGo
  refine G.noPanic_ite_err fun h => ?_
  cases t with
  | uint256 => exact G.noPanic_slice (by omega) (by omega) (G.noPanic_ok _)
  | uint64 =>
    exact G.noPanic_slice (by omega) (by omega) <| G.noPanic_ite_err fun _ => G.noPanic_ok _
  | dyn =>
    exact G.noPanic_bind _ _ (lpp_noPanic index out (by omega)) fun ⟨b, l⟩ he =>
      G.noPanic_slice (by omega) (lpp_bounds he).2 (G.noPanic_ok _)

theorem unpackFields_noPanic (ts : List FTy) (i : Nat) (out : Bytes) : G.NoPanic (unpackFields ts i out) := by
  induction ts generalizing i with
  | nil => exact G.noPanic_ok _
  | cons t ts ih =>
    exact G.noPanic_bind _ _ (toGo_noPanic _ _ _) fun _ _ => G.noPanic_bind _ _ (ih _) fun _ _ => G.noPanic_ok _

theorem unpackWrapped_noPanic (ts : List FTy) (data : Bytes) : G.NoPanic (unpackWrapped ts data) :=
  G.noPanic_ite_err fun _ => G.noPanic_ite_err fun h => G.noPanic_slice (by omega) (by omega) <|
    G.noPanic_ite_err fun _ => G.noPanic_ite_err fun _ => G.noPanic_sliceFrom (by omega) <| unpackFields_noPanic _ _ _

theorem unpackStatic_noPanic (ts : List FTy) (data : Bytes) : G.NoPanic (unpackStatic ts data) :=
  G.noPanic_ite_err fun _ => unpackFields_noPanic _ _ _

theorem packWrapped_length (vs : List FVal) : (packWrapped vs).length = 32 + 32 * vs.length + (encTails vs).length := by
  simp [packWrapped, encTuple, word_length, encHeads_length]; omega

theorem unpackWrapped_pack (ts : List FTy) (vs : List FVal) (hf : Fits ts vs)
    (hlen : (packWrapped vs).length < 2 ^ 63) : unpackWrapped ts (packWrapped vs) = .ok vs := by
  have hL := packWrapped_length vs
  have hT := HasAt.mid (encHeads vs (32 * vs.length)) (encTails vs) []
  rw [List.append_nil, encHeads_length] at hT
  have hs : G.slice (packWrapped vs) 0 32 = .ok (word 32) :=
    (HasAt.zero (word 32) (encTuple vs)).slice 32 (by rw [word_length])
  have hs2 : G.sliceFrom (packWrapped vs) 32 = .ok (encTuple vs) := by
    have := G.sliceFrom_append (word 32) (encTuple vs)
    rwa [word_length] at this
  unfold unpackWrapped
  rw [if_neg (by omega), if_neg (by omega), hs, G.bind_ok, beNat_word 32 (by decide)]
  dsimp only
  rw [if_neg (by omega), if_neg (by decide), hs2, G.bind_ok]
  refine unpackFields_enc _ ?_ ts vs 0 _ hf (HasAt.zero _ _) hT
  simp only [packWrapped, List.length_append, word_length] at hlen
  omega

theorem encHeads_nums (ns : List Nat) (off : Nat) : encHeads (ns.map FVal.num) off = packStatic ns := by
  induction ns with
  | nil => rfl
  | cons n ns ih => simp [encHeads, packStatic, ih] at ih ⊢

theorem packStatic_length (ns : List Nat) : (packStatic ns).length = 32 * ns.length := by
  rw [← encHeads_nums ns 0, encHeads_length, List.length_map]

theorem encTails_nums (ns : List Nat) : encTails (ns.map FVal.num) = [] := by
  induction ns with
  | nil => rfl
  | cons n ns ih => simp [encTails, FVal.tail] at ih ⊢

theorem unpackStatic_pack (ts : List FTy) (ns : List Nat) (hne : ns ≠ []) (hf : Fits ts (ns.map FVal.num))
    (hlen : (packStatic ns).length < 2 ^ 63) : unpackStatic ts (packStatic ns) = .ok (ns.map FVal.num) := by
  unfold unpackStatic
  have hL := packStatic_length ns
  have : ns.length ≠ 0 := by intro h; exact hne (List.eq_nil_of_length_eq_zero h)
  rw [if_neg (by omega)]
  refine unpackFields_enc _ hlen ts (ns.map FVal.num) 0 0 hf ?_ ?_
  · rw [encHeads_nums]; exact HasAt.self _
  · rw [encTails_nums]; exact HasAt.zero [] _

end IbcVerif.Abi
