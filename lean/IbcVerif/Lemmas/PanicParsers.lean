/-
  Model/PanicParsers.lean: the facts several no-panic theorems of C47 share — `len(x) - 1` of a non-empty split, the
  loops (`parseIdentifier`, `extractLoop`, `splitOnStrAux`), `beUint64` and the iteration-key reader (which panic on
  short input), and the PFM memo walkers.
-/
import IbcVerif.Model.PanicParsers
import IbcVerif.Lemmas.Bytes
namespace IbcVerif.Parsers
open IbcVerif
open IbcVerif.G (noPanic_ok noPanic_err noPanic_ite noPanic_ite_err noPanic_bind)

theorem lastIndex_ok {α : Type} (l : List α) (h : l ≠ []) : lastIndex l = .ok (l.length - 1) := by
  have : l.length ≠ 0 := fun h0 => h (List.eq_nil_of_length_eq_zero h0)
  simp [lastIndex, this]

theorem length_pos_of_ne_nil {α : Type} (l : List α) (h : l ≠ []) : 0 < l.length :=
  List.length_pos_iff.mpr h

theorem noPanic_lastIndex {α β : Type} {l : List α} {f : Nat → G β} (h : l ≠ [])
    (hf : l.length - 1 < l.length → G.NoPanic (f (l.length - 1))) : G.NoPanic (lastIndex l >>= f) := by
  rw [lastIndex_ok l h]
  exact hf (Nat.sub_lt (length_pos_of_ne_nil l h) Nat.one_pos)

/-- the last '-'-separated segment of a chain id -/
def lastSeg (L : Lib) (s : Str) : Option Str := (L.split s ['-']).getLast?

theorem getLast?_eq_getElem {α : Type} (l : List α) (h : l ≠ []) :
    l.getLast? = some (l[l.length - 1]'(by have := length_pos_of_ne_nil l h; omega)) := by
  rw [List.getLast?_eq_getElem?]
  have := length_pos_of_ne_nil l h
  simp [List.getElem?_eq_getElem (show l.length - 1 < l.length by omega)]

theorem parseIdentifier_noPanic (L : Lib) (id pfx : Str) : G.NoPanic (parseIdentifier L id pfx) := by
  unfold parseIdentifier
  refine noPanic_ite_err fun _ => noPanic_ite_err fun h =>
    G.noPanic_index (by omega) <| noPanic_ite_err fun _ => G.noPanic_index (by omega) ?_
  cases L.parseUint _ with
  | none => exact noPanic_err _
  | some n => exact noPanic_ok _

theorem extractLoop_noPanic (L : Lib) (ds : List Str) (fuel i : Nat) (tr : List (Str × Str)) :
    G.NoPanic (extractLoop L ds fuel i tr) := by
  induction fuel generalizing i tr with
  | zero => exact noPanic_ok _
  | succ f ih =>
    rw [extractLoop]
    refine noPanic_ite (fun _ => noPanic_ok _) fun hi => ?_
    have hi' : i < ds.length := Decidable.of_not_not hi
    have hbase : G.NoPanic (G.sliceFrom ds i >>= fun base => G.ok (tr, base)) :=
      G.noPanic_sliceFrom (Nat.le_of_lt hi') <| noPanic_ok _
    exact noPanic_ite (fun h2 => G.noPanic_index h2.1 <|
      noPanic_ite (fun _ => G.noPanic_index hi' <| ih _ _) fun _ => hbase) fun _ => hbase

theorem ibcDenomHexPart_noPanic_iff (s : Str) : G.NoPanic (ibcDenomHexPart s) ↔ 4 ≤ s.length :=
  G.noPanic_iff_of_panics (fun h => by rw [ibcDenomHexPart, G.sliceFrom_ok s denomPrefixSlash.length h]; exact noPanic_ok _)
    (G.sliceFrom_panic s 4)

theorem beUint64_cases (b : Bytes) :
    (8 ≤ b.length → ∃ v, beUint64 b = .ok v) ∧ (¬ 8 ≤ b.length → ∃ m, beUint64 b = .panic m) := by
  unfold beUint64
  constructor
  · intro h; rw [G.index_ok b 7 (by omega)]; exact ⟨_, rfl⟩
  · intro h
    obtain ⟨m, hm⟩ := G.index_panic b 7 (by omega)
    rw [hm]; exact ⟨m, rfl⟩

theorem beUint64_noPanic_iff (b : Bytes) : G.NoPanic (beUint64 b) ↔ 8 ≤ b.length :=
  G.noPanic_iff_of_panics (fun h => by obtain ⟨v, hv⟩ := (beUint64_cases b).1 h; rw [hv]; exact noPanic_ok _)
    (beUint64_cases b).2

theorem keyIterateConsensusStatePrefix_length : keyIterateConsensusStatePrefix.length = 22 := by decide +kernel

theorem getHeightFromIterationKey_panics (k : Bytes) (h : k.length < 38) : ∃ m, getHeightFromIterationKey k = .panic m := by
  unfold getHeightFromIterationKey
  rw [keyIterateConsensusStatePrefix_length]
  by_cases h1 : 22 ≤ k.length
  · rw [G.sliceFrom_ok k 22 h1, G.bind_ok]
    have hd : (k.drop 22).length = k.length - 22 := List.length_drop
    by_cases h2 : 8 ≤ (k.drop 22).length
    · rw [G.slice_ok _ 0 8 (Nat.zero_le 8) h2, G.bind_ok, G.sliceFrom_ok _ 8 h2, G.bind_ok]
      obtain ⟨v, hv⟩ := (beUint64_cases (((k.drop 22).take 8).drop 0)).1
        (by rw [List.drop_zero, List.length_take]; omega)
      obtain ⟨m, hm⟩ := (beUint64_cases ((k.drop 22).drop 8)).2 (by rw [List.length_drop]; omega)
      rw [hv, G.bind_ok, hm]; exact ⟨m, rfl⟩
    · rw [G.slice, if_neg (fun c => h2 c.2)]; exact ⟨_, rfl⟩
  · obtain ⟨m, hm⟩ := G.sliceFrom_panic k 22 h1
    rw [hm]; exact ⟨m, rfl⟩

/-! JSON-tree walkers: every type assertion is of the checked form -/

theorem getForwardMetadataFromNext_noPanic (pj : Str → Option (List (Str × JVal))) (v : JVal) :
    G.NoPanic (getForwardMetadataFromNext pj v) := by
  unfold getForwardMetadataFromNext
  refine noPanic_bind _ _ ?_ fun m _ => ?_
  · cases asObj? (some v) with
    | some kv => exact noPanic_ok _
    | none =>
      cases asStr? (some v) with
      | none => exact noPanic_err _
      | some s =>
        cases h : pj s with
        | none => simp only [h]; exact noPanic_err _
        | some kv => simp only [h]; exact noPanic_ok _
  · cases asObj? (jlookup m "forward".toList) with
    | none => exact noPanic_err _
    | some fd => exact noPanic_ok _

theorem getForwardMetadata_noPanic (pj : Str → Option (List (Str × JVal))) (fuel : Nat) (fd : List (Str × JVal)) :
    G.NoPanic (getForwardMetadata pj fuel fd) := by
  induction fuel generalizing fd with
  | zero => exact noPanic_err _
  | succ f ih =>
    rw [getForwardMetadata]
    cases asStr? (jlookup fd "receiver".toList) with
    | none => exact noPanic_err _
    | some receiver =>
    cases asStr? (jlookup fd "port".toList) with
    | none => exact noPanic_err _
    | some port =>
    cases asStr? (jlookup fd "channel".toList) with
    | none => exact noPanic_err _
    | some channel =>
    refine noPanic_ite_err fun _ => noPanic_bind _ _ ?_ fun r _ => ?_
    · cases jlookup fd "retries".toList with
      | none => exact noPanic_ok _
      | some v =>
        cases v with
        | num r => exact noPanic_ite_err fun _ => noPanic_ok _
        | _ => exact noPanic_err _
    · cases jlookup fd "next".toList with
      | none => exact noPanic_ok _
      | some nextAny =>
        exact noPanic_bind _ _ (getForwardMetadataFromNext_noPanic _ _) fun _ _ =>
          noPanic_bind _ _ (ih _) fun _ _ => noPanic_ok _

theorem splitOnStrAux_ne_nil (sep : Str) (fuel : Nat) (s cur : Str) : splitOnStrAux sep fuel s cur ≠ [] := by
  induction fuel generalizing s cur with
  | zero => simp [splitOnStrAux]
  | succ f ih =>
    cases s with
    | nil => simp [splitOnStrAux]
    | cons c cs =>
      simp only [splitOnStrAux]
      split
      · simp
      · exact ih _ _

end IbcVerif.Parsers
