/-
  Lemmas relating the rate-limiting parsers (string-prefix tests on the raw path) to the ICS-20
  decisions (tests on the parsed trace); and the list fact `isPrefixOf_append_self`, which the escrow
  and conservation lemmas use.
-/
import IbcVerif.Lemmas.Denom
namespace IbcVerif.Xfer
open IbcVerif

/-- two-segment path whose second segment is channel/client formatted: the one shape on which
    `ExtractDenomFromPath` changes its mind when a hop is prepended -/
def twoSegHopLike (s : Str) : Bool :=
  match splitOnChar '/' s with
  | [_, c] => isHopId c
  | _ => false

theorem extractGo_long_irrelevant_of_not_twoSeg (s : Str) (h : twoSegHopLike s = false) :
    extractGo (decide ((splitOnChar '/' s).length > 2)) (splitOnChar '/' s) = extractGo true (splitOnChar '/' s) := by
  apply extractGo_long_irrelevant
  intro p c heq
  unfold twoSegHopLike at h
  rw [heq] at h
  simpa using h

theorem split_of_hasPrefix (s sp sc : Str) (h : (extract s).hasPrefix sp sc = true) :
    ∃ rest : List Str, rest ≠ [] ∧ splitOnChar '/' s = sp :: sc :: rest := by
  rw [extract_eq] at h
  generalize splitOnChar '/' s = segs at h ⊢
  match segs, h with
  | [], h | [_], h | [_, _], h => cases h
  | x :: y :: z :: rest, h =>
    rw [extractGo] at h
    split at h
    · simp only [Denom.hasPrefix, Bool.and_eq_true, beq_iff_eq] at h
      exact ⟨z :: rest, List.cons_ne_nil _ _, by rw [h.1, h.2]⟩
    · cases h

theorem isPrefixOf_append_self (a b : Str) : a.isPrefixOf (a ++ b) = true := by
  rw [List.isPrefixOf_iff_prefix]
  exact List.prefix_append a b

/-- for a recognised source channel identifier, the raw string-prefix test of the rate limiter and
    ICS-20's test on the parsed trace agree -/
theorem stringPrefix_iff_hasPrefix (s sp sc : Str) (hsp : '/' ∉ sp) (hsc : '/' ∉ sc) (hid : isHopId sc = true) :
    ((Hop.mk sp sc).str ++ ['/']).isPrefixOf s = (extract s).hasPrefix sp sc := by
  have hstr (t : Str) : (Hop.mk sp sc).str ++ ['/'] ++ t = sp ++ '/' :: (sc ++ '/' :: t) := by simp [Hop.str]
  cases hp : (extract s).hasPrefix sp sc with
  | true =>
    obtain ⟨rest, hne, hsplit⟩ := split_of_hasPrefix s sp sc hp
    rw [← join_split '/' s, hsplit, joinWith_cons_of_ne_nil '/' sp _ (by simp),
      joinWith_cons_of_ne_nil '/' sc _ hne, ← hstr]
    exact isPrefixOf_append_self _ _
  | false =>
    cases hq : ((Hop.mk sp sc).str ++ ['/']).isPrefixOf s with
    | false => rfl
    | true =>
      obtain ⟨t, rfl⟩ := List.isPrefixOf_iff_prefix.mp hq
      rw [hstr, extract_cons_hop sp sc t hsp hsc hid] at hp
      simp [Denom.hasPrefix] at hp

end IbcVerif.Xfer
