/-
  Model/Abi.lean, attestation light client: `decodePacketAtt (encodePacketAtt a)` returns `a` with every path and
  commitment normalised to 32 bytes (`bytes32`: truncated or zero-padded).
-/
import IbcVerif.Lemmas.Abi
namespace IbcVerif.Abi
open IbcVerif

theorem bytes32_length (b : Bytes) : (bytes32 b).length = 32 := by
  simp [bytes32]; omega

theorem bytes32_of_length (b : Bytes) (h : b.length = 32) : bytes32 b = b := by
  simp [bytes32, h, List.take_of_length_le (Nat.le_of_eq h)]

def normCompact (p : PacketCompact) : PacketCompact := ⟨bytes32 p.path, bytes32 p.commitment⟩

theorem encodeCompact_length (p : PacketCompact) : (encodeCompact p).length = 64 := by
  simp [encodeCompact, bytes32_length]

theorem flatMap_encodeCompact_length (ps : List PacketCompact) : (ps.flatMap encodeCompact).length = 64 * ps.length := by
  induction ps with
  | nil => rfl
  | cons p ps ih => rw [List.flatMap_cons, List.length_append, ih, encodeCompact_length, List.length_cons]; omega

theorem unpackCompact_enc (p : PacketCompact) (out : Bytes) (i : Nat) (h : HasAt out i (encodeCompact p)) :
    unpackCompact i out = .ok (normCompact p) := by
  have hle := h.le
  have ho : HasAt (out.drop i) 0 (encodeCompact p) := HasAt.drop h
  have hol := ho.le
  rw [encodeCompact_length] at hle hol
  have hc := ho.right (a := bytes32 p.path)
  rw [bytes32_length] at hc
  unfold unpackCompact
  rw [if_neg (by omega), G.sliceFrom_ok out i (by omega), G.bind_ok, if_neg (by omega),
    ho.left.slice 32 (by rw [bytes32_length]), G.bind_ok, if_neg (by omega), hc.slice 64 (by rw [bytes32_length]), G.bind_ok]
  rfl

theorem unpackCompacts_enc (out : Bytes) : ∀ (ps : List PacketCompact) (i : Nat), HasAt out i (ps.flatMap encodeCompact) →
    unpackCompacts ps.length i out = .ok (ps.map normCompact)
  | [], _, _ => rfl
  | p :: ps, i, h => by
    rw [List.flatMap_cons] at h
    have ih := unpackCompacts_enc out ps (i + 64) (by have := h.right; rwa [encodeCompact_length] at this)
    rw [List.length_cons, unpackCompacts, unpackCompact_enc p out i h.left, ih]
    rfl

theorem encodePacketAtt_length (a : PacketAtt) : (encodePacketAtt a).length = 128 + 64 * a.packets.length := by
  simp only [encodePacketAtt, encPackets, List.length_append, word_length, flatMap_encodeCompact_length]; omega

theorem decodePacketAtt_encode (a : PacketAtt) (hh : a.height < 2 ^ 64) (hlen : (encodePacketAtt a).length < 2 ^ 63) :
    decodePacketAtt (encodePacketAtt a) = .ok ⟨a.height, a.packets.map normCompact⟩ := by
  have hL := encodePacketAtt_length a
  obtain ⟨h, ps⟩ := a
  simp only at hh hL ⊢
  generalize ho : word h ++ word 64 ++ encPackets ps = out
  have hd : encodePacketAtt ⟨h, ps⟩ = word 32 ++ out := by rw [← ho]; rfl
  have hol : out.length = 96 + 64 * ps.length := by
    rw [hd, List.length_append, word_length] at hL; omega
  have h0 : HasAt out 0 (word h ++ word 64 ++ word ps.length) := by
    rw [← ho, encPackets, ← List.append_assoc]; exact HasAt.zero _ _
  have h32 := h0.left.right
  have h64 := h0.right
  have h96 := G.sliceFrom_append (word h ++ word 64 ++ word ps.length) (ps.flatMap encodeCompact)
  rw [List.append_assoc _ (word ps.length), ← encPackets, ho] at h96
  simp only [List.length_append, word_length] at h32 h64 h96
  unfold decodePacketAtt
  rw [hd] at hL hlen ⊢
  rw [if_neg (by omega), if_neg (by omega), (HasAt.zero (word 32) out).slice 32 (by rw [word_length]), G.bind_ok,
    beNat_word 32 (by decide)]
  dsimp only
  have hsf := G.sliceFrom_append (word 32) out
  rw [word_length] at hsf
  rw [if_neg (by omega), if_neg (by decide), hsf, G.bind_ok, toGo_num .uint64 h out 0 hh h0.left.left, G.bind_ok,
    if_neg (by omega), lpp_enc out 32 64 ps.length h32 h64 (by omega) (by rw [List.length_append] at hlen; omega)]
  rw [G.bind_ok]
  dsimp only
  rw [(h96 : G.sliceFrom out (64 + 32) = _), G.bind_ok, forEachUnpack,
    if_neg (by rw [flatMap_encodeCompact_length]; omega), unpackCompacts_enc _ ps 0 (HasAt.self _)]
  rfl
end IbcVerif.Abi
