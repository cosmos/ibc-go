/-
  Helper lemmas about the denomination model (`Model/Denom.lean`): split/join algebra,
  characterisation of the hop loop of `ExtractDenomFromPath`, path stability.
-/
import IbcVerif.Model.Denom
import IbcVerif.Lemmas.Dec
namespace IbcVerif.Xfer
open IbcVerif

theorem joinWith_cons_of_ne_nil (sep : Char) (p : Str) (ps : List Str) (h : ps ≠ []) :
    joinWith sep (p :: ps) = p ++ sep :: joinWith sep ps := by
  cases ps with
  | nil => exact absurd rfl h
  | cons q qs => rfl

theorem splitOnChar_cons_sep (sep : Char) (s : Str) :
    splitOnChar sep (sep :: s) = [] :: splitOnChar sep s := by
  simp [splitOnChar]

theorem splitOnChar_append' (sep : Char) (a b : Str) (h : sep ∉ a) :
    splitOnChar sep (a ++ sep :: b) = a :: splitOnChar sep b := splitOnChar_append sep a b h

theorem not_mem_of_mem_split (sep : Char) (s : Str) : ∀ p ∈ splitOnChar sep s, sep ∉ p := by
  induction s with
  | nil => simp [splitOnChar]
  | cons c cs ih =>
    obtain ⟨q, qs, hs⟩ := List.exists_cons_of_ne_nil (splitOnChar_ne_nil sep cs)
    rw [hs] at ih
    rw [splitOnChar, hs]
    by_cases hc : c = sep
    · rw [if_pos hc]
      exact List.forall_mem_cons.mpr ⟨List.not_mem_nil, ih⟩
    · rw [List.forall_mem_cons] at ih
      simp only [if_neg hc, List.forall_mem_cons]
      exact ⟨fun hm => (List.mem_cons.mp hm).elim (Ne.symm hc) ih.1, ih.2⟩

/-- segments of a trace: port, channel, port, channel, … -/
def flatHops : List Hop → List Str
  | [] => []
  | h :: hs => h.port :: h.chan :: flatHops hs

/-- The hop loop: the hops it found followed by the segments it left are the segments it was given,
    every hop has a recognised identifier, and it stopped in front of a pair whose second segment is
    not recognised (or because `long` is off). -/
theorem extractGo_spec (long : Bool) (segs : List Str) :
    flatHops (extractGo long segs).1 ++ (extractGo long segs).2 = segs ∧
    (∀ h ∈ (extractGo long segs).1, isHopId h.chan = true) ∧
    ∀ p c more, (extractGo long segs).2 = p :: c :: more → (long && isHopId c) = false := by
  induction segs using extractGo.induct long with
  | case1 p c rest hc ih =>
    rw [extractGo, if_pos hc]
    refine ⟨by simp [flatHops, ih.1], List.forall_mem_cons.mpr ⟨?_, ih.2.1⟩, ih.2.2⟩
    exact (Bool.and_eq_true _ _ ▸ hc).2
  | case2 p c rest hc =>
    rw [extractGo, if_neg hc]
    refine ⟨rfl, nofun, fun p' c' more e => ?_⟩
    cases e
    simpa using hc
  | case3 segs hne =>
    rw [extractGo.eq_2 long segs hne]
    exact ⟨rfl, nofun, fun p c more e => (hne p c more e).elim⟩

/-- with at most two segments, or a second segment that is not channel/client formatted, the
    `length > 2` guard of the loop is irrelevant -/
theorem extractGo_long_irrelevant (segs : List Str)
    (h : ∀ p c, segs = [p, c] → isHopId c = false) :
    extractGo (decide (segs.length > 2)) segs = extractGo true segs :=
  match segs, h with
  | [], _ | [_], _ => rfl
  | [p, c], h => by simp [extractGo, h p c rfl]
  | _ :: _ :: _ :: _, _ => by simp

/-- `Path`'s builder loop followed by a non-empty base is the '/'-join of all segments -/
theorem tracePrefix_join (tr : List Hop) (r : List Str) (hr : r ≠ []) :
    Denom.tracePrefix tr ++ joinWith '/' r = joinWith '/' (flatHops tr ++ r) := by
  induction tr with
  | nil => simp [Denom.tracePrefix, flatHops]
  | cons h hs ih =>
    simp only [Denom.tracePrefix, flatHops, Hop.str, List.cons_append, List.append_assoc]
    rw [joinWith_cons_of_ne_nil '/' h.port _ (by simp), joinWith_cons_of_ne_nil '/' h.chan _ (by simp [hr]), ← ih]

theorem goBlank_nil : goBlank [] = true := rfl

theorem joinWith_nil (sep : Char) : joinWith sep [] = [] := rfl

/-- `ExtractDenomFromPath` is the hop loop on the '/'-split (the early return for '/'-free strings
    is subsumed) -/
theorem extract_eq (s : Str) :
    extract s = ⟨(extractGo (decide ((splitOnChar '/' s).length > 2)) (splitOnChar '/' s)).1,
                 joinWith '/' (extractGo (decide ((splitOnChar '/' s).length > 2)) (splitOnChar '/' s)).2⟩ := by
  unfold extract
  split
  · rename_i h
    rw [splitOnChar_no_sep '/' s (by simpa using h)]
    rfl
  · rfl

theorem extract_path_of_base_ne_nil (s : Str) (h : (extract s).base ≠ []) : (extract s).path = s := by
  rw [extract_eq] at h ⊢
  have hflat := (extractGo_spec (decide ((splitOnChar '/' s).length > 2)) (splitOnChar '/' s)).1
  generalize extractGo (decide ((splitOnChar '/' s).length > 2)) (splitOnChar '/' s) = g at h hflat ⊢
  obtain ⟨tr, r⟩ := g
  have hr : r ≠ [] := fun e => h (e ▸ rfl)
  rw [← join_split '/' s, ← hflat]
  cases tr with
  | nil => rfl
  | cons x xs => exact tracePrefix_join _ _ hr

/-- a denomination is *path-stable* when parsing its path returns it -/
def PathStable (d : Denom) : Prop := extract d.path = d

theorem extractGo_true_of_hopFree (base : Str) (h : hopFreeBase base = true) :
    extractGo true (splitOnChar '/' base) = ([], splitOnChar '/' base) := by
  unfold hopFreeBase at h
  split at h
  · rename_i p c rest heq
    rw [heq]
    simp only [Bool.not_eq_true'] at h
    simp [extractGo, h]
  · rename_i hne
    exact extractGo.eq_2 true _ hne

theorem extract_cons_hop (p c s : Str) (hp : '/' ∉ p) (hc : '/' ∉ c) (hid : isHopId c = true) :
    extract (p ++ '/' :: (c ++ '/' :: s)) =
      ⟨⟨p, c⟩ :: (extractGo true (splitOnChar '/' s)).1, joinWith '/' (extractGo true (splitOnChar '/' s)).2⟩ := by
  obtain ⟨q, qs, hq⟩ := List.exists_cons_of_ne_nil (splitOnChar_ne_nil '/' s)
  rw [extract_eq, splitOnChar_append '/' p _ hp, splitOnChar_append '/' c _ hc, hq, extractGo]
  simp [hid]

theorem path_cons (x : Hop) (xs : List Hop) (b : Str) :
    Denom.path ⟨x :: xs, b⟩ = x.port ++ '/' :: (x.chan ++ '/' :: Denom.path ⟨xs, b⟩) := by
  cases xs <;> simp [Denom.path, Denom.isNative, Denom.tracePrefix, Hop.str]

theorem extractGo_path (tr : List Hop) (b : Str) (hsep : ∀ x ∈ tr, '/' ∉ x.port ∧ '/' ∉ x.chan)
    (hid : ∀ x ∈ tr, isHopId x.chan = true) (hb : hopFreeBase b = true) :
    extractGo true (splitOnChar '/' (Denom.path ⟨tr, b⟩)) = (tr, splitOnChar '/' b) := by
  induction tr with
  | nil => exact extractGo_true_of_hopFree b hb
  | cons x xs ih =>
    rw [List.forall_mem_cons] at hsep hid
    rw [path_cons, splitOnChar_append '/' _ _ hsep.1.1, splitOnChar_append '/' _ _ hsep.1.2, extractGo,
      ih hsep.2 hid.2]
    simp [hid.1]

/-- **Stability criterion.**  A denomination whose hops are '/'-free with ibc-go formatted channel
    identifiers and whose base is hop-free is path-stable. -/
theorem pathStable_of_hopFree (d : Denom)
    (hsep : ∀ x ∈ d.trace, '/' ∉ x.port ∧ '/' ∉ x.chan)
    (hid : ∀ x ∈ d.trace, isHopId x.chan = true)
    (hb : hopFreeBase d.base = true) : PathStable d := by
  obtain ⟨tr, b⟩ := d
  unfold PathStable
  cases tr with
  | nil =>
    show extract b = _
    rw [extract_eq, extractGo_long_irrelevant, extractGo_true_of_hopFree b hb, join_split]
    intro p c heq
    unfold hopFreeBase at hb
    rw [heq] at hb
    simpa using hb
  | cons x xs =>
    rw [List.forall_mem_cons] at hsep hid
    rw [path_cons, extract_cons_hop _ _ _ hsep.1.1 hsep.1.2 hid.1, extractGo_path xs b hsep.2 hid.2 hb,
      join_split]

end IbcVerif.Xfer
