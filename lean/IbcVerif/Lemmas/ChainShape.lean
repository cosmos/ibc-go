/-
  The shape of one step's writes to the channel and connection stores: at most one key each, and an
  end is written OPEN only by the handshake message that opens it.  `step_shape` (Lemmas/ChainTrOps)
  proves it of every step.
-/
import IbcVerif.Lemmas.ChainOk
namespace IbcVerif.Chain
open FMap

/-- the channel end a message can move to OPEN -/
def Body.opensChan : Body → Option (Id × Id)
  | .chanOpenAck port chan _ _ _ => some (port, chan)
  | .chanOpenConfirm port chan _ => some (port, chan)
  | _ => none

/-- the connection end a message can move to OPEN -/
def Body.opensConn : Body → Option Id
  | .connOpenAck c _ _ => some c
  | .connOpenConfirm c => some c
  | _ => none

/-- the channel store after a step: unchanged, or one key written; the written end is OPEN only if
    the message is the ChanOpenAck / ChanOpenConfirm for that key -/
def ChanShape (body : Body) (s s' : ChainState) : Prop :=
  s'.chan = s.chan ∨ ∃ key v, s'.chan = s.chan.set key v ∧ (v.state = .opened → body.opensChan = some key)

def ConnShape (body : Body) (s s' : ChainState) : Prop :=
  s'.conn = s.conn ∨ ∃ key v, s'.conn = s.conn.set key v ∧ (v.state = .opened → body.opensConn = some key)

/-- split a handler equation; branches whose result has literally the channel and connection stores of
    `s` are closed -/
macro "csplit " h:ident : tactic =>
  `(tactic| ((try simp only at $h:ident); (repeat' split at $h:ident) <;>
      (try (simp only [Prod.mk.injEq] at $h:ident; obtain ⟨hh, -⟩ := $h:ident; subst hh;
            exact ⟨Or.inl rfl, Or.inl rfl⟩))))

theorem cc_of_eq {body : Body} {s s' : ChainState} (h1 : s'.chan = s.chan) (h2 : s'.conn = s.conn) :
    ChanShape body s s' ∧ ConnShape body s s' := ⟨.inl h1, .inl h2⟩

theorem timeoutExecuted_shape {body : Body} {s : ChainState} {ch : Channel} {p : PacketV1} :
    ChanShape body s (timeoutExecuted s ch p) ∧ ConnShape body s (timeoutExecuted s ch p) := by
  rw [timeoutExecuted_eq]
  split
  · exact ⟨.inr ⟨_, _, rfl, nofun⟩, .inl rfl⟩
  · exact cc_of_eq rfl rfl

theorem toBool_guard {ε α β : Type} {c : Prop} [Decidable c] {e : ε} {x : Except ε α} {y : Except ε β}
    (h : x.toBool = y.toBool) :
    (if c then Except.error e else x).toBool = (if c then Except.error e else y).toBool := by
  split
  · rfl
  · exact h

end IbcVerif.Chain
