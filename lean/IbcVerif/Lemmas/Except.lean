/-
  Guards: a chain `if c₁ then r₁ else if c₂ then r₂ else … x` equals a value none of the `rᵢ` is exactly
  when no guard fires and `x` equals it.  With these lemmas `simp only` turns `f … = .ok a`, for a checking
  function `f` written as a chain of guards, into the conjunction of its conditions.
-/
namespace IbcVerif

theorem ite_eq_iff_of_ne {α : Type} {c : Prop} [Decidable c] {a b r : α} (h : a ≠ r) :
    (if c then a else b) = r ↔ ¬c ∧ b = r := by
  by_cases hc : c <;> simp [hc, h]

theorem error_else_eq_ok {ε α : Type} {c : Prop} [Decidable c] {e : ε} {x : Except ε α} {a : α} :
    (if c then .error e else x) = .ok a ↔ ¬c ∧ x = .ok a :=
  ite_eq_iff_of_ne nofun

/-- `error_else_eq_ok` in continuation form: a run of guards is peeled by `refine ok_ite fun _ => ok_ite fun h => ?_` -/
theorem ok_ite {ε α : Type} {c : Prop} [Decidable c] {e : ε} {x : Except ε α} {r : α} {P : Prop}
    (h : ¬c → x = .ok r → P) : (if c then .error e else x) = .ok r → P :=
  fun hx => (error_else_eq_ok.mp hx).elim h

theorem some_else_eq_none {α : Type} {c : Prop} [Decidable c] {x : α} {y : Option α} :
    (if c then some x else y) = none ↔ ¬c ∧ y = none :=
  ite_eq_iff_of_ne nofun

theorem ok_else_eq_ok {ε α : Type} {c : Prop} [Decidable c] {e : ε} {a : α} :
    (if c then .ok a else .error e : Except ε α) = .ok a ↔ c := by
  by_cases h : c <;> simp [h]

end IbcVerif
