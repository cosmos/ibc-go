/-
  Helper lemmas for the 09-localhost model (property C27): `verifyMembership` and `verifyNonMembership`
  are the same gates (`gated`) in front of a last look at the store.
-/
import IbcVerif.Model.Localhost
import IbcVerif.Lemmas.Except
namespace IbcVerif.Localhost
open IbcVerif.WasmStore (Bytes KV)

/-- height, sentinel proof, two-element Merkle path with a non-empty key; `last` is given the key -/
def gated (height self : Ht) (proof : Bytes) (path : Path) (last : Bytes → Except Err Unit) : Except Err Unit :=
  if heightGT height self then .error .invalidHeight
  else if proof != sentinelProof then .error .invalidProof
  else match path with
    | none => .error .invalidType
    | some kp =>
      if kp.length != 2 then .error .invalidPath
      else if (kp.getD 1 []).isEmpty then .error .storePanic
      else last (kp.getD 1 [])

/-- the last check of `verifyMembership` -/
def holds (store : KV) (value key : Bytes) : Except Err Unit :=
  match store.get key with
  | none => .error .failedMembership
  | some bz => if bz != value then .error .failedMembership else .ok ()

/-- the last check of `verifyNonMembership` -/
def absent (store : KV) (key : Bytes) : Except Err Unit :=
  if store.has key then .error .failedNonMembership else .ok ()

theorem verifyMembership_eq (store : KV) (height self : Ht) (proof : Bytes) (path : Path) (value : Bytes) :
    verifyMembership store height self proof path value = gated height self proof path (holds store value) :=
  rfl

theorem verifyNonMembership_eq (store : KV) (height self : Ht) (proof : Bytes) (path : Path) :
    verifyNonMembership store height self proof path = gated height self proof path (absent store) :=
  rfl

theorem gated_ok_iff (height self : Ht) (proof : Bytes) (path : Path) (last : Bytes → Except Err Unit) :
    gated height self proof path last = .ok () ↔
      heightGT height self = false ∧ proof = sentinelProof ∧
      ∃ pfx key, path = some [pfx, key] ∧ key ≠ [] ∧ last key = .ok () := by
  simp only [gated, error_else_eq_ok, Bool.not_eq_true, bne_eq_false_iff_eq]
  refine and_congr_right fun _ => and_congr_right fun _ => ?_
  rcases path with _ | _ | ⟨pfx, _ | ⟨key, _ | _⟩⟩
  case some.cons.cons.nil =>
    simp only [List.length_cons, List.length_nil, bne_self_eq_false, Bool.false_eq_true, if_false,
      List.getD_cons_succ, List.getD_cons_zero, error_else_eq_ok, List.isEmpty_iff]
    exact ⟨fun h => ⟨pfx, key, rfl, h⟩, fun ⟨_, _, e, h⟩ => by cases e; exact h⟩
  all_goals simp

theorem holds_ok_iff (store : KV) (value key : Bytes) :
    holds store value key = .ok () ↔ store.get key = some value := by
  unfold holds
  cases store.get key <;> simp

theorem absent_ok_iff (store : KV) (key : Bytes) : absent store key = .ok () ↔ store.get key = none := by
  unfold absent WasmStore.KV.has
  cases store.get key <;> simp

theorem resOf_eq_ok_iff (r : Except Err Unit) : resOf r = .ok ↔ r = .ok () := by
  cases r <;> simp [resOf]

end IbcVerif.Localhost
