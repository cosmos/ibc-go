/-
  Model/Abi.lean, the packet-data codecs: `G.NoPanic` of `unpackCompact(s)`, `decodeFtpd`, `decodeGmp`, `decodeAck`,
  and `decodeFtpd` on the ABI encoding of an ICS-20 value with a decimal amount.
-/
import IbcVerif.Lemmas.AbiAtt
import IbcVerif.Lemmas.Dec
namespace IbcVerif.Abi
open IbcVerif

open IbcVerif.G (noPanic_ok noPanic_err noPanic_ite noPanic_ite_err noPanic_bind)

theorem unpackCompact_noPanic (i : Nat) (out : Bytes) : G.NoPanic (unpackCompact i out) :=
  noPanic_ite_err fun h => G.noPanic_sliceFrom (by omega) <| noPanic_ite_err fun h2 =>
    G.noPanic_slice (by omega) (by omega) <| noPanic_ite_err fun h3 =>
    G.noPanic_slice (by omega) (by omega) (noPanic_ok _)

theorem unpackCompacts_noPanic (n i : Nat) (out : Bytes) : G.NoPanic (unpackCompacts n i out) := by
  induction n generalizing i with
  | zero => exact noPanic_ok _
  | succ n ih =>
    exact noPanic_bind _ _ (unpackCompact_noPanic _ _) fun _ _ => noPanic_bind _ _ (ih _) fun _ _ => noPanic_ok _

theorem decodeFtpd_noPanic (data : Bytes) : G.NoPanic (decodeFtpd data) := by
  refine noPanic_bind _ _ (unpackWrapped_noPanic _ _) fun vs _ => ?_
  split
  · exact noPanic_ok _
  · exact noPanic_err _

theorem decodeGmp_noPanic (data : Bytes) : G.NoPanic (decodeGmp data) := by
  refine noPanic_bind _ _ (unpackWrapped_noPanic _ _) fun vs _ => ?_
  split
  · exact noPanic_ok _
  · exact noPanic_err _

theorem decodeAck_noPanic (data : Bytes) : G.NoPanic (decodeAck data) := by
  refine noPanic_bind _ _ (unpackWrapped_noPanic _ _) fun vs _ => ?_
  split
  · exact noPanic_ok _
  · exact noPanic_err _

theorem parseBig10_dec (n : Nat) : parseBig10 (dec n) = some (false, n) := by
  obtain ⟨c, cs, hd, hc⟩ := dec_head_isDigit n
  have hp : parseDigits10 (dec n) = some n := by
    have hv : Nat.ofDigitChars 10 (dec n) 0 = n := by simp [dec]
    rw [parseDigits10, hd, List.isEmpty_cons, if_neg Bool.false_ne_true, ← hd, if_pos (dec_all_digits n), hv]
  rw [hd] at hp ⊢
  unfold parseBig10
  split
  · rename_i r heq; injection heq with a b; rw [a] at hc; exact absurd hc (by decide)
  · rename_i r heq; injection heq with a b; rw [a] at hc; exact absurd hc (by decide)
  · rw [hp]; rfl

theorem decodeFtpd_pack (denom sender receiver memo : Bytes) (n : Nat) (hn : n < 2 ^ 256)
    (hlen : (packWrapped [.dyn denom, .dyn sender, .dyn receiver, .num n, .dyn memo]).length < 2 ^ 63) :
    decodeFtpd (packWrapped [.dyn denom, .dyn sender, .dyn receiver, .num n, .dyn memo])
      = .ok ⟨denom, dec n, sender, receiver, memo⟩ := by
  unfold decodeFtpd
  rw [unpackWrapped_pack ics20Tys _ (by simp [ics20Tys, Fits, fits, hn]) hlen]
  rfl

end IbcVerif.Abi
