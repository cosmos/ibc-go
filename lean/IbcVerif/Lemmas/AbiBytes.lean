/-
  Model/Abi.lean, byte level: big-endian numbers (`beBytes`/`beNat`, the 32-byte `word`), `ceil32` padding and the
  lengths of `rightPad` / `encDyn`.
-/
import IbcVerif.Model.Abi
import IbcVerif.Lemmas.Bytes
namespace IbcVerif.Abi
open IbcVerif

theorem beBytes_length (k n : Nat) : (beBytes k n).length = k := by
  induction k generalizing n with
  | zero => rfl
  | succ k ih => simp [beBytes, ih]

theorem beNat_foldl (acc : Nat) (b : Bytes) :
    b.foldl (fun acc x => acc * 256 + x.toNat) acc = acc * 256 ^ b.length + beNat b := by
  induction b generalizing acc with
  | nil => simp [beNat]
  | cons x xs ih =>
    simp only [List.foldl_cons, List.length_cons, beNat]
    rw [ih, ih (0 * 256 + x.toNat)]
    rw [Nat.pow_succ]
    simp only [Nat.zero_mul, Nat.zero_add, Nat.add_mul, Nat.mul_assoc, Nat.add_assoc]
    congr 2
    exact Nat.mul_comm _ _

theorem beNat_append (a b : Bytes) : beNat (a ++ b) = beNat a * 256 ^ b.length + beNat b := by
  rw [beNat, List.foldl_append, beNat_foldl]; rfl

theorem beNat_beBytes (k n : Nat) : beNat (beBytes k n) = n % 256 ^ k := by
  induction k generalizing n with
  | zero => simp [beBytes, beNat, Nat.mod_one]
  | succ k ih =>
    rw [beBytes, beNat_append, ih]
    have h1 : beNat [UInt8.ofNat (n % 256)] = n % 256 := by
      simp only [beNat, List.foldl, UInt8.toNat_ofNat']
      omega
    rw [h1, List.length_singleton, Nat.pow_one, Nat.pow_succ', Nat.mod_mul]
    omega

theorem beNat_lt (b : Bytes) : beNat b < 256 ^ b.length := by
  induction b with
  | nil => simp [beNat]
  | cons x xs ih =>
    have h := beNat_foldl x.toNat xs
    have h2 := Nat.mul_le_mul_right (256 ^ xs.length) (Nat.succ_le_of_lt x.toNat_lt)
    rw [Nat.succ_mul] at h2
    rw [beNat, List.foldl_cons, Nat.zero_mul, Nat.zero_add, h, List.length_cons, Nat.pow_succ]
    omega

theorem word_length (n : Nat) : (word n).length = 32 := beBytes_length 32 n

theorem beNat_word_mod (n : Nat) : beNat (word n) = n % 2 ^ 256 := by
  rw [word, beNat_beBytes, show (256:Nat)^32 = 2^256 by decide]

theorem beNat_word (n : Nat) (h : n < 2 ^ 256) : beNat (word n) = n := by
  rw [beNat_word_mod, Nat.mod_eq_of_lt h]

theorem ceil32_ge (l : Nat) : l ≤ ceil32 l := by unfold ceil32; omega
theorem ceil32_lt (l : Nat) : ceil32 l < l + 32 := by unfold ceil32; omega

theorem rightPad_length (b : Bytes) : (rightPad b).length = ceil32 b.length := by
  simp [rightPad]; have := ceil32_ge b.length; omega

theorem encDyn_length (b : Bytes) : (encDyn b).length = 32 + ceil32 b.length := by
  simp [encDyn, word_length, rightPad_length]

theorem slice_noPanic {α : Type} (l : List α) (lo hi : Nat) (h1 : lo ≤ hi) (h2 : hi ≤ l.length) :
    ∃ s, G.slice l lo hi = .ok s ∧ s.length = hi - lo := by
  refine ⟨_, G.slice_ok l lo hi h1 h2, ?_⟩
  rw [List.length_drop, List.length_take]; omega
end IbcVerif.Abi
