/-
  C29 — Wasm client recovery never writes the substitute's store.
  Property theorems only; helper lemmas live in IbcVerif/Lemmas/WasmStore.lean.

  `run s ops` is an arbitrary history of Get/Has/Set/Delete/Iterator/ReverseIterator calls (arbitrary
  keys) on a `ClientRecoveryStore` whose wrapped stores start as `s.subject` / `s.substitute`.
  The abstract view of a state is the pair of partial maps `(s.subject.get, s.substitute.get)`.
-/
import IbcVerif.Model.WasmStore
import IbcVerif.Lemmas.WasmStore
namespace IbcVerif.C29
open IbcVerif.WasmStore

/-- effect of one call on the abstract subject map `f` (specification): only `Set`/`Delete` with a key
`"subject/" ++ k'` touch `k'` (a `Set` of the bare prefix or of a nil value panics in the SDK store
and writes nothing). -/
def absWrite (f : Bytes → Option Bytes) : Op → Bytes → Option Bytes
  | .set k (some v) => fun k' => if k = subjectPrefix ++ k' ∧ k' ≠ [] then some v else f k'
  | .delete k => fun k' => if k = subjectPrefix ++ k' then none else f k'
  | _ => f

/-- **The substitute's store is never modified**, whatever the history of calls. -/
theorem substitute_unchanged (s : RS) (ops : List Op) : (run s ops).1.substitute = s.substitute := by
  induction ops generalizing s with
  | nil => rfl
  | cons op ops ih => simp only [run]; rw [ih, step_substitute]

/-- A write whose key does not start with `"subject/"` (no prefix, `"substitute/"`, `"subject"` without
the slash, …) is a no-op on the whole state. -/
theorem unprefixed_write_noop (s : RS) (k : Bytes) (v : Option Bytes)
    (h : subjectPrefix.isPrefixOf k = false) :
    step s (.set k v) = (s, .unit) ∧ step s (.delete k) = (s, .unit) := by
  have hne : (splitPrefix k).1 ≠ subjectPrefix := fun e => by
    rw [← splitPrefix_append k, e, isPrefixOf_append] at h; cases h
  simp [step, hne]

/-- One call refines `absWrite` on the subject map. -/
theorem step_subject_refines (s : RS) (op : Op) :
    (step s op).1.subject.get = absWrite s.subject.get op := by
  funext k'
  cases op with
  | get k | has k => simp only [step, absWrite]; split <;> rfl
  | iter a b | revIter a b => simp only [step, absWrite]; (repeat' split) <;> rfl
  | set k v =>
    rcases subject_prefix_cases k with ⟨r, rfl⟩ | ⟨h, hne⟩
    · rw [step_set_subject]
      cases r with
      | nil => cases v <;> simp [absWrite]
      | cons a r =>
        cases v with
        | none => rfl
        | some v =>
          simp only [List.isEmpty_cons, Bool.false_eq_true, if_false, absWrite, KV.get_set,
            List.append_cancel_left_eq]
          by_cases h : k' = a :: r <;> simp [h, eq_comm]
    · rw [(unprefixed_write_noop s k v h).1]
      cases v <;> simp [absWrite, hne]
  | delete k =>
    rcases subject_prefix_cases k with ⟨r, rfl⟩ | ⟨h, hne⟩
    · simp only [step_delete_subject, absWrite, KV.get_delete, List.append_cancel_left_eq, eq_comm]
    · rw [(unprefixed_write_noop s k none h).2]
      simp [absWrite, hne]

/-- **Refinement over all histories**: after any sequence of calls the subject map is the fold of the
abstract write specification over that sequence (and the substitute map is the initial one). -/
theorem subject_refines (s : RS) (ops : List Op) :
    (run s ops).1.subject.get = ops.foldl absWrite s.subject.get ∧
    (run s ops).1.substitute.get = s.substitute.get := by
  refine ⟨?_, by rw [substitute_unchanged]⟩
  induction ops generalizing s with
  | nil => rfl
  | cons op ops ih => simp only [run, List.foldl_cons]; rw [ih, step_subject_refines]

/-- **A write reaches the subject at `k'` iff its key is `"subject/" ++ k'`** (only-if direction): any
change of the subject map at `k'` is caused by a `Set`/`Delete` whose key is exactly that. -/
theorem subject_change_only_by_prefixed_write (s : RS) (op : Op) (k' : Bytes)
    (h : (step s op).1.subject.get k' ≠ s.subject.get k') :
    (∃ v, op = .set (subjectPrefix ++ k') (some v)) ∨ op = .delete (subjectPrefix ++ k') := by
  rw [step_subject_refines] at h
  cases op with
  | get k | has k | iter a b | revIter a b => exact absurd rfl h
  | set k v =>
    cases v with
    | none => exact absurd rfl h
    | some v =>
      by_cases hk : k = subjectPrefix ++ k' ∧ k' ≠ []
      · exact .inl ⟨v, by rw [hk.1]⟩
      · exact absurd (if_neg hk) h
  | delete k =>
    by_cases hk : k = subjectPrefix ++ k'
    · exact .inr (by rw [hk])
    · exact absurd (if_neg hk) h

/-- (if direction) a `Set` of `"subject/" ++ k'` stores the value at `k'` of the subject, a `Delete`
removes it; nothing else of the subject changes. -/
theorem prefixed_write_reaches_subject (s : RS) (k' v : Bytes) (hk : k' ≠ []) :
    (step s (.set (subjectPrefix ++ k') (some v))).1.subject.get k' = some v ∧
    (step s (.delete (subjectPrefix ++ k'))).1.subject.get k' = none ∧
    (∀ k'', k'' ≠ k' →
      (step s (.set (subjectPrefix ++ k') (some v))).1.subject.get k'' = s.subject.get k'' ∧
      (step s (.delete (subjectPrefix ++ k'))).1.subject.get k'' = s.subject.get k'') := by
  simp only [step_subject_refines, absWrite]
  exact ⟨by simp [hk], by simp, fun k'' hne => by simp [hne.symm]⟩

/-- Reads never change the state. -/
theorem reads_pure (s : RS) (k a b : Bytes) :
    (step s (.get k)).1 = s ∧ (step s (.has k)).1 = s ∧
    (step s (.iter a b)).1 = s ∧ (step s (.revIter a b)).1 = s := by
  refine ⟨?_, ?_, ?_, ?_⟩ <;> simp only [step] <;> (repeat' split) <;> rfl

/-- **Reads are routed by prefix**: a key / range carrying `"subject/"` reads the subject store at the
stripped key / range; `"substitute/"` reads the substitute store. -/
theorem reads_routed (s : RS) (k a b : Bytes) :
    (step s (.get (subjectPrefix ++ k))).2 = .val (s.subject.get k) ∧
    (step s (.has (subjectPrefix ++ k))).2 = .bool (s.subject.has k) ∧
    (step s (.iter (subjectPrefix ++ a) (subjectPrefix ++ b))).2 = .items (s.subject.iter a b) ∧
    (step s (.revIter (subjectPrefix ++ a) (subjectPrefix ++ b))).2 = .items (s.subject.revIter a b) ∧
    (step s (.get (substitutePrefix ++ k))).2 = .val (s.substitute.get k) ∧
    (step s (.has (substitutePrefix ++ k))).2 = .bool (s.substitute.has k) ∧
    (step s (.iter (substitutePrefix ++ a) (substitutePrefix ++ b))).2 = .items (s.substitute.iter a b) ∧
    (step s (.revIter (substitutePrefix ++ a) (substitutePrefix ++ b))).2 =
      .items (s.substitute.revIter a b) := by
  simp [step, splitPrefix_subject, splitPrefix_substitute, getStore_subject, getStore_substitute,
    RS.store]

/-- **Keys without one of the two prefixes read as empty** (`nil` / `false` / closed iterator). -/
theorem bad_prefix_reads_empty (s : RS) (k : Bytes)
    (h1 : subjectPrefix.isPrefixOf k = false) (h2 : substitutePrefix.isPrefixOf k = false) :
    (step s (.get k)).2 = .val none ∧ (step s (.has k)).2 = .bool false ∧
    (∀ e, (step s (.iter k e)).2 = .items [] ∧ (step s (.revIter k e)).2 = .items []) ∧
    (∀ b, (step s (.iter b k)).2 = .items [] ∧ (step s (.revIter b k)).2 = .items []) := by
  have hs := splitPrefix_none h1 h2
  refine ⟨by simp [step, hs, getStore_nil], by simp [step, hs, getStore_nil],
    fun e => by simp [step, hs, getStore_nil], fun b => ?_⟩
  by_cases hb : (splitPrefix b).1 = []
  · simp [step, hs, hb, getStore_nil]
  · simp [step, hs, hb]

/-- **Ranges whose bounds do not carry one consistent prefix read as empty**: a non-empty iteration
result implies both bounds carry the same one of the two prefixes. -/
theorem iter_nonempty_only_consistent_prefix (s : RS) (a b : Bytes)
    (h : (step s (.iter a b)).2 ≠ .items [] ∨ (step s (.revIter a b)).2 ≠ .items []) :
    ∃ p a' b', (p = subjectPrefix ∨ p = substitutePrefix) ∧ a = p ++ a' ∧ b = p ++ b' := by
  have hpq : (splitPrefix a).1 = (splitPrefix b).1 :=
    Decidable.byContradiction fun hne => by simp [step, hne] at h
  cases hg : getStore (splitPrefix a).1 with
  | none => simp [step, hpq, hpq ▸ hg] at h
  | some w =>
    exact ⟨_, _, _, getStore_eq_some hg, (splitPrefix_append a).symm, hpq ▸ (splitPrefix_append b).symm⟩

/-- What an iteration of a wrapped store returns: exactly the entries with `start ≤ key < end`
(so, with `reads_routed`, an iteration through the recovery store lists exactly the routed store's
entries in the stripped range). -/
theorem iter_contents (m : KV) (a b : Bytes) (p : Bytes × Bytes) :
    (p ∈ m.iter a b ↔ p ∈ m ∧ bytesLt p.1 a = false ∧ bytesLt p.1 b = true) ∧
    (p ∈ m.revIter a b ↔ p ∈ m.iter a b) := by
  simp [KV.iter, KV.revIter, KV.range, List.mem_mergeSort]

/-- The two prefixes are not prefixes of one another's keys, so "first matching prefix" is unambiguous. -/
theorem prefixes_disjoint (k : Bytes) :
    subjectPrefix.isPrefixOf (substitutePrefix ++ k) = false ∧
    substitutePrefix.isPrefixOf (subjectPrefix ++ k) = false :=
  ⟨rfl, rfl⟩

/-- subject = {"a" ↦ 01}, substitute = {"a" ↦ 02}; Set("substitute/a", 09) and Set("a", 09) are no-ops,
Set("subject/a", 07) reaches the subject, reads are routed. -/
example :
    let s : RS := ⟨[([97], [1])], [([97], [2])]⟩
    let ops := [Op.set (substitutePrefix ++ [97]) (some [9]), Op.set [97] (some [9]),
      Op.set (subjectPrefix ++ [97]) (some [7]), Op.get (subjectPrefix ++ [97]),
      Op.get (substitutePrefix ++ [97]), Op.get [97],
      Op.iter (subjectPrefix ++ [0]) (substitutePrefix ++ [255])]
    run s ops = (⟨[([97], [7])], [([97], [2])]⟩,
      [.unit, .unit, .unit, .val (some [7]), .val (some [2]), .val none, .items []]) := by
  decide +kernel

end IbcVerif.C29
