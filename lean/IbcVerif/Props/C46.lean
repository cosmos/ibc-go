/-
  C46 — Privileged and client-scoped operations require the right signer (core handlers).

  Decision logic of modules/core/keeper/msg_server.go (RecoverClient, IBCSoftwareUpgrade,
  UpdateClientParams, UpdateConnectionParams, RegisterCounterparty, UpdateClientConfig,
  DeleteClientCreator, UpdateClient) and of the v2 packet handlers' relayer allow-list, plus the
  allowed-clients gate of 02-client `Route`.  `authority` is the configured authority; `env.signer`
  the message signer; `env.vb` the verdict of the message's stateless validation.
  (wasm Store/Remove/Migrate and rate-limit administration belong to other clusters.)
-/
import IbcVerif.Lemmas.ChainTrOps
namespace IbcVerif.C46
open IbcVerif IbcVerif.Chain

theorem recoverClient_needs_authority (s s' : ChainState) (env : Env) (a b : Id) (r : String)
    (h : step s ⟨env, .recoverClient a b⟩ = (s', .ok r)) : env.signer = authority :=
  ((recoverClient_cases h).ok rfl).1

theorem ibcSoftwareUpgrade_needs_authority (s s' : ChainState) (env : Env) (u : Bool) (r : String)
    (h : step s ⟨env, .ibcSoftwareUpgrade u⟩ = (s', .ok r)) : env.signer = authority :=
  ((ibcSoftwareUpgrade_cases h).ok rfl).1

/-- UpdateClientParams succeeds exactly for the authority (given a well-formed message) and then
    replaces the allowed-clients list. -/
theorem updateClientParams_accept_iff (s : ChainState) (env : Env) (allowed : List String) :
    (step s ⟨env, .updateClientParams allowed⟩).2.isOk = true ↔ env.vb = true ∧ env.signer = authority := by
  by_cases hv : env.vb = true <;> by_cases ha : env.signer = authority <;>
    simp [step, Body.isMsg, msgUpdateClientParams, hv, ha, Out.isOk]

theorem updateConnParams_accept_iff (s : ChainState) (env : Env) (m : Nat) :
    (step s ⟨env, .updateConnParams m⟩).2.isOk = true ↔ env.vb = true ∧ env.signer = authority := by
  by_cases hv : env.vb = true <;> by_cases ha : env.signer = authority <;>
    simp [step, Body.isMsg, msgUpdateConnParams, hv, ha, Out.isOk]

/-- RegisterCounterparty succeeds only for the client's creator and only once; it sets the
    counterparty and initialises the send counter to 1. -/
theorem registerCounterparty_accept_iff (s : ChainState) (env : Env) (cid cp : Id) (pfx : List Hex) :
    (step s ⟨env, .registerCounterparty cid cp pfx⟩).2.isOk = true ↔
      env.vb = true ∧ s.creator.get cid = some env.signer ∧ s.cpV2.get cid = none := by
  unfold step
  simp only [Body.isMsg, Bool.true_and]
  unfold msgRegisterCounterparty
  by_cases hv : env.vb = true
  · by_cases hc : s.creator.get cid = some env.signer
    · by_cases hp : s.cpV2.get cid = none
      · have : s.cpV2.has cid = false := (FMap.has_false_iff _ _).mpr hp
        simp [hv, hc, this, hp, Out.isOk]
      · have : s.cpV2.has cid = true := (FMap.has_iff _ _).mpr hp
        simp [hv, hc, this, hp, Out.isOk]
    · simp [hv, hc, Out.isOk]
  · simp [hv, Out.isOk]

theorem registerCounterparty_effect (s s' : ChainState) (env : Env) (cid cp : Id) (pfx : List Hex) (r : String)
    (h : step s ⟨env, .registerCounterparty cid cp pfx⟩ = (s', .ok r)) :
    s' = { s with cpV2 := s.cpV2.set cid (cp, pfx), nextSend := s.nextSend.set cid 1 } :=
  ((registerCounterparty_cases h).ok rfl).2.2

/-- UpdateClientConfig: authority or creator. -/
theorem updateClientConfig_accept_iff (s : ChainState) (env : Env) (cid : Id) (rel : List String) :
    (step s ⟨env, .updateClientConfig cid rel⟩).2.isOk = true ↔
      env.vb = true ∧ (env.signer = authority ∨ s.creator.get cid = some env.signer) := by
  by_cases hv : env.vb = true <;> by_cases ha : env.signer = authority <;>
    by_cases hc : s.creator.get cid = some env.signer <;>
      simp [step, Body.isMsg, msgUpdateClientConfig, hv, ha, hc, Out.isOk]

/-- DeleteClientCreator: a creator must exist, and the signer is the authority or that creator. -/
theorem deleteClientCreator_accept_iff (s : ChainState) (env : Env) (cid : Id) :
    (step s ⟨env, .deleteClientCreator cid⟩).2.isOk = true ↔
      env.vb = true ∧ ∃ c, s.creator.get cid = some c ∧ (env.signer = authority ∨ c = env.signer) := by
  unfold step
  simp only [Body.isMsg, Bool.true_and]
  unfold msgDeleteClientCreator
  by_cases hv : env.vb = true
  · cases hc : s.creator.get cid with
    | none => simp [hv, Out.isOk]
    | some c =>
      by_cases ha : env.signer = authority <;> by_cases he : c = env.signer <;> simp [hv, ha, he, Out.isOk]
  · simp [hv, Out.isOk]

/-- `Config.IsAllowedRelayer`: an empty (or unset) list is permissionless, otherwise membership. -/
theorem isAllowedRelayer_iff (s : ChainState) (id : Id) (signer : String) :
    isAllowedRelayer s id signer = true ↔
      (s.cfgV2.get id = none ∨ s.cfgV2.get id = some []) ∨ ∃ l, s.cfgV2.get id = some l ∧ signer ∈ l := by
  unfold isAllowedRelayer
  rcases s.cfgV2.get id with _ | _ | _ <;> simp

/-- a v2 receive is gated by the allow-list of the packet's DESTINATION id. -/
theorem recvV2_needs_listed_relayer (s : ChainState) (env : Env) (p : PacketV2) (apps : List AppV2)
    (h : isAllowedRelayer s p.dst env.signer = false) :
    (step s ⟨env, .recvV2 p apps⟩).2 = .err eUnauthorized ∨ (step s ⟨env, .recvV2 p apps⟩).2 = .err eVB := by
  by_cases hv : env.vb = true <;> simp [step, Body.isMsg, msgRecvPacketV2, hv, h]

/-- acknowledgement and timeout are gated by the allow-list of the packet's SOURCE id. -/
theorem ackV2_needs_listed_relayer (s : ChainState) (env : Env) (p : PacketV2) (acks : List Hex) (apps : List AppV2)
    (h : isAllowedRelayer s p.src env.signer = false) :
    (step s ⟨env, .ackV2 p acks apps⟩).2 = .err eUnauthorized ∨ (step s ⟨env, .ackV2 p acks apps⟩).2 = .err eVB := by
  by_cases hv : env.vb = true <;> simp [step, Body.isMsg, msgAcknowledgementV2, hv, h]

theorem timeoutV2_needs_listed_relayer (s : ChainState) (env : Env) (p : PacketV2) (apps : List AppV2)
    (h : isAllowedRelayer s p.src env.signer = false) :
    (step s ⟨env, .timeoutV2 p apps⟩).2 = .err eUnauthorized ∨ (step s ⟨env, .timeoutV2 p apps⟩).2 = .err eVB := by
  by_cases hv : env.vb = true <;> simp [step, Body.isMsg, msgTimeoutV2, hv, h]

theorem updateClient_needs_listed_relayer (s : ChainState) (env : Env) (cid : Id)
    (h : isAllowedRelayer s cid env.signer = false) :
    (step s ⟨env, .updateClient cid⟩).2 = .err eUnauthorized ∨ (step s ⟨env, .updateClient cid⟩).2 = .err eVB := by
  by_cases hv : env.vb = true <;> simp [step, Body.isMsg, msgUpdateClient, hv, h]

/-- a client whose type is not on the allowed-clients list (and the list is not the wildcard) cannot
    be routed. -/
theorem route_needs_allowed (s : ChainState) (cid : Id) (t : String) (n : Nat)
    (hp : parseClientId cid = .ok (t, n)) (hna : isAllowedClient s.allowedClients t = false) :
    route s cid = .error eClientType := by
  unfold route
  simp [hp, hna]

/-- a client that cannot be routed has status Unauthorized, and every verification and timestamp query fails. -/
theorem unrouted_client_is_unusable (s : ChainState) (env : Env) (cid : Id) (e : String) (h : route s cid = .error e) :
    clientStatus s env cid = .unauthorized ∧ (∀ v, verify s env cid v = .error e) ∧
    clientTimestampAt s env cid = .error e ∧ clientLatestHeight s env cid = Height.zero := by
  unfold clientStatus verify clientTimestampAt clientLatestHeight
  simp [h]

/-- creating a client of a type that is not allowed fails. -/
theorem createClient_needs_allowed (s s' : ChainState) (env : Env) (ctype : String) (r : String)
    (h : step s ⟨env, .createClient ctype⟩ = (s', .ok r)) :
    ∃ t n, parseClientId (fmtClient ctype s.nextClientSeq) = .ok (t, n) ∧ isAllowedClient s.allowedClients t = true ∧
      registeredClientTypes.contains t = true := by
  obtain ⟨t, n, hp, ha, hr⟩ := route_ok_allowed ((createClient_cases h).ok rfl).1
  exact ⟨t, n, hp, ha, hr⟩

example : isAllowedRelayer Chain.init "99-verif-0" "bob" = true := by decide +kernel

end IbcVerif.C46
