/-
  C01 — Exactly-once packet delivery under any relay history.

  Model: IbcVerif/Model/Chain.lean (`step` mirrors RecvPacket of modules/core/keeper/msg_server.go,
  04-channel/keeper/packet.go:RecvPacket/applyReplayProtection, 04-channel/v2/keeper/msg_server.go:
  RecvPacket, v2/keeper/packet.go:recvPacket).  A history is any `List Op`: duplicates, reorderings,
  replays, v1 / v2 / v2-over-alias traffic, handshake and authorisation messages are just list
  elements; every proof verdict, light-client answer and application result is carried by the op, so
  the theorems hold for ALL of them (even "every proof verifies").

  `Event.recv1 port chan seq` is logged exactly when the destination application's OnRecvPacket ran
  in a committed transaction; `Event.recv2 dst seq n` when the v2 callbacks of payloads 0..n-1 ran
  (once each, in order) in a committed transaction.
-/
import IbcVerif.Lemmas.ChainInv2
namespace IbcVerif.C01
open IbcVerif IbcVerif.Chain

/-- v1 (ORDERED, UNORDERED and aliased channels): over any history the destination application's
    receive callback ran at most once per (destination port, channel, sequence). -/
theorem recv_at_most_once_v1 (ops : List Op) (port chan : Id) (seq : Nat) :
    (run init ops).log.count (.recv1 port chan seq) ≤ 1 :=
  (inv_run_init ops).recv1Count port chan seq

/-- v2 (client ids and channel aliases): over any history at most one committed transaction ran the
    receive callbacks of (destination id, sequence) — each payload's callback once. -/
theorem recv_at_most_once_v2 (ops : List Op) (dst : Id) (seq : Nat) :
    ((run init ops).log.filter (Event.isRecv2 dst seq)).length ≤ 1 :=
  (inv_run_init ops).recv2Count dst seq

/-- A message that is answered NOOP, or fails, changes no state at all — not even the callback log
    (the application was not reached). -/
theorem noop_or_error_is_identity (s s' : ChainState) (op : Op) (out : Out)
    (h : step s op = (s', out)) (hno : out.isOk = false) : s' = s :=
  step_unchanged h hno

/-- Relaying an already delivered v1 packet again (same destination and sequence; any data, any
    proof verdict, any application behaviour) never succeeds: it is a NOOP or an error, the state is
    unchanged and the application is not reached.  `s` is any state reachable by a history. -/
theorem replay_v1_never_delivers (ops : List Op) (env : Env) (p : PacketV1) (app : AppV1)
    (hdone : Event.recv1 p.dp p.dc p.seq ∈ (run init ops).log) :
    (step (run init ops) ⟨env, .recvV1 p app⟩).2.isOk = false ∧
    (step (run init ops) ⟨env, .recvV1 p app⟩).1 = run init ops := by
  have hi := inv_run_init ops
  refine not_ok_unchanged fun s' r hstep => ?_
  obtain ⟨s1, h1, hs⟩ := (recvV1_cases hstep).ok rfl
  have hlog : s'.log = (run init ops).log ++ [.recv1 p.dp p.dc p.seq] := by
    rcases hs with ⟨_, _, rfl⟩ | ⟨_, _, rfl⟩ | ⟨_, rfl⟩ <;> rw [← (recvPacketV1_frame h1).2.2.1]
  have hi' := hi.step (step_tr hstep)
  have hc := hi'.recv1Count p.dp p.dc p.seq
  rw [hlog, List.count_append] at hc
  have : 0 < List.count (Event.recv1 p.dp p.dc p.seq) (run init ops).log := List.count_pos_iff.mpr hdone
  simp at hc; omega

/-- the same for IBC v2 (client id or alias as destination) -/
theorem replay_v2_never_delivers (ops : List Op) (env : Env) (p : PacketV2) (apps : List AppV2)
    (e : Event) (hdone : e ∈ (run init ops).log) (he : e.isRecv2 p.dst p.seq = true) :
    (step (run init ops) ⟨env, .recvV2 p apps⟩).2.isOk = false ∧
    (step (run init ops) ⟨env, .recvV2 p apps⟩).1 = run init ops := by
  have hi := inv_run_init ops
  refine not_ok_unchanged fun s' r hstep => ?_
  obtain ⟨s1, _, _, hr, _⟩ := (recvV2_cases hstep).ok rfl
  obtain ⟨hnone, _⟩ := recvPacketV2_ok hr
  exact hi.recv2 p.dst p.seq e hdone he hnone

/-- a delivered v1 packet stays marked as received for ever (receipt on UNORDERED channels, the
    next-receive counter on ORDERED ones): the replay protection is never undone by any later message,
    including channel handshakes on other channels. -/
theorem delivered_stays_marked (ops : List Op) (port chan : Id) (seq : Nat)
    (h : Event.recv1 port chan seq ∈ (run init ops).log) :
    ∃ ch, (run init ops).chan.get (port, chan) = some ch ∧
      ((ch.ordering = .unordered ∧ (run init ops).receiptV1.get (port, chan, seq) ≠ none) ∨
       (ch.ordering = .ordered ∧ ∃ n, (run init ops).nextRecv.get (port, chan) = some n ∧ seq < n)) :=
  (inv_run_init ops).recv1 port chan seq h

/-- non-vacuity: the invariant's hypotheses are met by the genesis state. -/
example : Inv Chain.init := Inv.init

end IbcVerif.C01
