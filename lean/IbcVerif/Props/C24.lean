/-
  C24 — Tendermint headers and misbehaviour are accepted only when verified.
  Property theorems only (model: IbcVerif/Model/Tm*.lean; lemmas: IbcVerif/Lemmas/Tm*.lean).

  Level: PARTIAL.  Proved here: the checks that ibc-go itself adds around the CometBFT light client —
  trusted consensus state must exist, trusted validators must hash to its next-validators hash, same
  revision, strictly greater height, then `light.Verify` — as an exact iff, for all headers, where the
  verdict of `light.Verify` (`valid`: signatures, > 2/3 of the header's own validator set, ≥ trust level of
  the trusted set, trusting period, clock drift, monotone time, chain id) and of
  `VerifyCommitLightTrusting` (misbehaviour) are universally quantified parameters, evaluated in the
  correspondence harness by calling CometBFT on honestly signed and on mutated headers.
  The voting-power arithmetic of CometBFT is hand-modelled and proved in IbcVerif/Props/C24Power.lean.
-/
import IbcVerif.Lemmas.TmGate
namespace IbcVerif.C24
open IbcVerif IbcVerif.Tm

/-- **`verifyHeader` accepts iff** a consensus state is stored at the header's trusted height, the
    trusted validator set hashes to that state's next-validators hash, the header is in the same
    revision and strictly above the trusted height, its protobuf parts convert, and CometBFT's
    `light.Verify` accepts. -/
theorem verifyHeader_accepts_iff (s : Store) (hdr : Header) (valid : Bool) :
    verifyHeader s hdr valid = none ↔
      ∃ c, s.getCons hdr.trusted = some c ∧ hdr.tvals = some c.nvh ∧ hdr.height.rev = hdr.trusted.rev ∧
        hdr.parseOK = true ∧ hk hdr.trusted < hk hdr.height ∧ valid = true :=
  verifyHeader_none_iff s hdr valid

/-- **A header is accepted by `UpdateClient`** (stored, recognised as a duplicate, or — if it conflicts
    with stored state — answered by freezing) **iff the client is Active and `verifyHeader` accepts**;
    in every other case nothing at all is written. -/
theorem header_accepted_iff (s : Store) (hs : StoreInv s) (now : Int) (self : Height) (hdr : Header) (valid : Bool) :
    (((updateStore s now self hdr valid).2 = "updated" ∨ (updateStore s now self hdr valid).2 = "frozen") ↔
      (s.status now = .active ∧
        ∃ c, s.getCons hdr.trusted = some c ∧ hdr.tvals = some c.nvh ∧ hdr.height.rev = hdr.trusted.rev ∧
          hdr.parseOK = true ∧ hk hdr.trusted < hk hdr.height ∧ valid = true)) ∧
    (¬ (s.status now = .active ∧ verifyHeader s hdr valid = none) → (updateStore s now self hdr valid).1 = s) := by
  have := updateStore_accept_iff s hs now self hdr valid
  rw [verifyHeader_none_iff] at this
  exact ⟨this.1, fun h => this.2 (by rw [← verifyHeader_none_iff]; exact h)⟩

/-- mutating the trusted validator set, the trusted height, the revision, the height relation, or
    anything that makes CometBFT's verdict negative (a signed field, a signature, the validator set, a
    time outside trusting period / clock drift) makes acceptance fail, and nothing is written -/
theorem mutation_rejected (s : Store) (hs : StoreInv s) (now : Int) (self : Height) (hdr : Header) (valid : Bool)
    (hmut : s.getCons hdr.trusted = none ∨                                  -- unknown trusted height
            (∃ c, s.getCons hdr.trusted = some c ∧ hdr.tvals ≠ some c.nvh) ∨   -- other trusted validators
            hdr.height.rev ≠ hdr.trusted.rev ∨                                 -- other revision
            hk hdr.height ≤ hk hdr.trusted ∨                                   -- not strictly above
            valid = false) :                                                   -- light.Verify says no
    (updateStore s now self hdr valid).1 = s ∧ (updateStore s now self hdr valid).2 ≠ "updated" ∧
    (updateStore s now self hdr valid).2 ≠ "frozen" := by
  have hno : ¬ (s.status now = .active ∧ verifyHeader s hdr valid = none) := by
    rintro ⟨_, hv⟩
    obtain ⟨c, h1, h2, h3, _, h5, h6⟩ := (verifyHeader_none_iff s hdr valid).mp hv
    rcases hmut with h | ⟨c', hc', h⟩ | h | h | h
    · rw [h1] at h; cases h
    · rw [h1] at hc'; cases hc'; exact h h2
    · exact h h3
    · omega
    · rw [h6] at h; cases h
  have acc := updateStore_accept_iff s hs now self hdr valid
  refine ⟨acc.2 hno, fun h => hno (acc.1.mp (Or.inl h)), fun h => hno (acc.1.mp (Or.inr h))⟩

/-- **`checkMisbehaviourHeader` accepts iff** the trusted validators hash to the trusted consensus
    state's next-validators hash, the commit converts, the trusted consensus state is younger than the
    trusting period, and `VerifyCommitLightTrusting` (under the revision-adjusted chain id) accepts. -/
theorem checkMisbehaviourHeader_accepts_iff (cs : ClientState) (c : ConsState) (hdr : Header) (now : Int) (valid : Bool) :
    checkMisbehaviourHeader cs c hdr now valid = none ↔
      (hdr.tvals = some c.nvh ∧ hdr.commitOK = true ∧ now - c.ts < cs.trustingPeriod ∧ valid = true) :=
  checkMisbehaviourHeader_none_iff cs c hdr now valid

/-- which pairs count as misbehaviour: two different blocks at one height, or a higher header that is
    not later in time -/
theorem misbehaviour_kind (m : Misbehaviour) :
    checkMisbehaviourMsg m = true ↔
      ((hk m.h1.height = hk m.h2.height ∧ m.h1.blockIdOK = true ∧ m.h2.blockIdOK = true ∧ m.h1.blockHash ≠ m.h2.blockHash) ∨
       (hk m.h1.height ≠ hk m.h2.height ∧ m.h1.ts ≤ m.h2.ts)) := by
  unfold checkMisbehaviourMsg
  have he := eq_iff_hk m.h1.height m.h2.height
  by_cases e : m.h1.height.eq m.h2.height = true
  · simp [e, he.mp e]
  · simp [e, mt he.mpr e]

/-- **Misbehaviour freezes the client iff** the message is well formed, the client is Active, both
    headers pass `checkMisbehaviourHeader` against consensus states stored at their trusted heights, and
    the pair is misbehaviour; otherwise nothing is written. -/
theorem misbehaviour_freezes_iff (s : Store) (now : Int) (m : Misbehaviour) (v1 v2 : Bool) :
    ((misbehaviourStore s now m v1 v2).2 = "frozen" ↔
      (m.validateBasic = true ∧ s.status now = .active ∧
        ∃ cs c1 c2, s.client = some cs ∧ s.getCons m.h1.trusted = some c1 ∧ s.getCons m.h2.trusted = some c2 ∧
          (m.h1.tvals = some c1.nvh ∧ m.h1.commitOK = true ∧ now - c1.ts < cs.trustingPeriod ∧ v1 = true) ∧
          (m.h2.tvals = some c2.nvh ∧ m.h2.commitOK = true ∧ now - c2.ts < cs.trustingPeriod ∧ v2 = true) ∧
          checkMisbehaviourMsg m = true)) ∧
    ((misbehaviourStore s now m v1 v2).2 ≠ "frozen" → (misbehaviourStore s now m v1 v2).1 = s) := by
  refine ⟨⟨fun h => ?_, fun ⟨hb, hst, cs, c1, c2, hc, g1, g2, k1, k2, hm⟩ => ?_⟩, fun h => ?_⟩
  · rcases misbehaviourStore_cases s now m v1 v2 with ⟨_, hne⟩ | ⟨cs, hc, hst, hb, hv, hm, _⟩
    · exact absurd h hne
    · obtain ⟨c1, c2, g1, g2, k1, k2⟩ := (verifyMisbehaviour_none_iff cs s m now v1 v2).mp hv
      exact ⟨hb, hst, cs, c1, c2, hc, g1, g2, (checkMisbehaviourHeader_none_iff ..).mp k1,
        (checkMisbehaviourHeader_none_iff ..).mp k2, hm⟩
  · rw [misbehaviourStore_frozen hc hst hb ((verifyMisbehaviour_none_iff cs s m now v1 v2).mpr
      ⟨c1, c2, g1, g2, (checkMisbehaviourHeader_none_iff ..).mpr k1, (checkMisbehaviourHeader_none_iff ..).mpr k2⟩) hm]
  · rcases misbehaviourStore_cases s now m v1 v2 with ⟨e, _⟩ | ⟨_, _, _, _, _, _, e⟩
    · exact e
    · rw [e] at h; exact absurd rfl h

/-- ibc-go's stateless checks on a misbehaviour message (`Misbehaviour.ValidateBasic`, on top of the
    CometBFT checks `basicOK`): non-zero trusted revision heights, trusted validators present, same chain
    id, trusted height strictly below each header, header 1 not below header 2, parseable block ids -/
theorem misbehaviour_validateBasic_iff (m : Misbehaviour) :
    m.validateBasic = true ↔
      (m.h1.trusted.h ≠ 0 ∧ m.h2.trusted.h ≠ 0 ∧ m.h1.tvals.isSome = true ∧ m.h2.tvals.isSome = true ∧ m.chainEq = true ∧
       m.h1.basicOK = true ∧ hk m.h1.trusted < hk m.h1.height ∧ m.h2.basicOK = true ∧ hk m.h2.trusted < hk m.h2.height ∧
       hk m.h2.height ≤ hk m.h1.height ∧ m.h1.blockIdOK = true ∧ m.h2.blockIdOK = true) := by
  simp only [Misbehaviour.validateBasic, Header.validateBasic, Bool.and_eq_true, bne_iff_ne, ne_eq,
    Bool.not_eq_eq_eq_not, Bool.not_true, gte_eq_false_iff_hk, lt_eq_false_iff_hk, and_assoc]

def exNv : String := String.ofList (List.replicate 64 'a')
def exCs : ClientState :=
  { chainId := "simchain-1", tlNum := 1, tlDen := 3, trustingPeriod := 1000000000000, unbondingPeriod := 1500000000000,
    maxClockDrift := 10000000000, frozen := ⟨0, 0⟩, latest := ⟨1, 5⟩, proofSpecs := some "sdk", upgradePath := ["upgrade"],
    allowExpiry := false, allowMisb := false }
def exHdr (h : UInt64) (tv : String) : Header :=
  { height := ⟨1, h⟩, ts := 1000000900, root := "r", nvh := exNv, trusted := ⟨1, 5⟩, tvals := some tv, parseOK := true,
    blockHash := "bb", commitOK := true, blockIdOK := true, basicOK := true }
def exW : World := (createClient ⟨[], 0, 2000000000, ⟨1, 9⟩⟩ exCs ⟨1000000000, String.ofList (List.replicate 64 'c'), exNv⟩).1

example : (step exW (.update 0 (exHdr 9 exNv) true)).2 = "updated" ∧
    (step exW (.update 0 (exHdr 9 "beef") true)).2 = "err:invalid-validator-set" ∧
    (step exW (.update 0 (exHdr 5 exNv) true)).2 = "err:invalid-header" ∧
    (step exW (.update 0 (exHdr 9 exNv) false)).2 = "err:lib" := by
  rw [exW, createClient_first (by decide +kernel)
    (by exact validateBasic_hex List.length_replicate List.length_replicate (by decide)) (by decide)]
  decide +kernel

end IbcVerif.C24
