/-
  C36 — Transfer authorizations never exceed their grant.
  Over ALL grants (any number of allocations, bounded/unbounded limits, allow lists, memo lists)
  and ALL request histories.  `norm` is strings.TrimSpace (a parameter: the theorems hold for any).
-/
import IbcVerif.Lemmas.Authz
namespace IbcVerif.C36
open IbcVerif.Authz

/-- accounting over a whole history: for every (port, channel, denom) whose granted limit is bounded,
    what the grantee moved plus what is left equals what was granted — exactly. -/
theorem spent_plus_remaining (norm : String → String) (msgs : List Msg) :
    ∀ (g : List Allocation) (p c d : String), GrantWF g → BoundedOn g p c d →
      spentOn (run norm g msgs).2 p c d + remaining (run norm g msgs).1 p c d = remaining g p c d := by
  induction msgs with
  | nil => intro g p c d _ _; simp [run, spentOn]
  | cons m ms ih =>
    intro g p c d hwf hb
    obtain ⟨hwf', hb', hstep⟩ := accept_step norm g m p c d hwf hb
    have := ih (nextGrant g (accept norm g m)) p c d hwf' hb'
    simp only [run]
    cases hacc : (accept norm g m).accepted with
    | true =>
      simp only [hacc, if_true, true_and, spentOn, List.map_cons, List.sum_cons] at hstep this ⊢
      omega
    | false =>
      simp only [hacc, Bool.false_eq_true, false_and, if_false, Nat.add_zero] at hstep ⊢
      omega

/-- hence the grantee can never move more than the granted spend limit -/
theorem spent_le_limit (norm : String → String) (g : List Allocation) (msgs : List Msg) (p c d : String)
    (hwf : GrantWF g) (hb : BoundedOn g p c d) : spentOn (run norm g msgs).2 p c d ≤ remaining g p c d := by
  have := spent_plus_remaining norm msgs g p c d hwf hb
  omega

/-- a single accepted request decreases the remaining limit by exactly its amount (and leaves every
    other bounded (port, channel, denom) untouched) -/
theorem limit_decreases_exactly (norm : String → String) (g : List Allocation) (m : Msg) (p c d : String)
    (hwf : GrantWF g) (hb : BoundedOn g p c d) :
    remaining (nextGrant g (accept norm g m)) p c d +
      (if (accept norm g m).accepted = true ∧ m.port = p ∧ m.chan = c ∧ m.denom = d then m.amount else 0)
      = remaining g p c d :=
  (accept_step norm g m p c d hwf hb).2.2

/-- a request is accepted only on an allocated port/channel, to an allow-listed receiver (if a list is
    set) and with an allowed memo -/
theorem accepted_respects_lists (norm : String → String) (g : List Allocation) (m : Msg)
    (h : (accept norm g m).accepted = true) :
    ∃ a ∈ g, a.chan = m.chan ∧ a.port = m.port ∧
      (a.allowList = [] ∨ m.receiver ∈ a.allowList) ∧
      (if a.allowedMemos = [] then (norm m.memo).isEmpty = true
       else a.allowedMemos = [allowAll] ∨ ∃ x ∈ a.allowedMemos, norm m.memo = norm x) := by
  obtain ⟨i, a, hga, hac, hap, h1, h2, -⟩ := accept_accepted norm g m h
  refine ⟨a, List.mem_of_getElem? hga, hac, hap, ?_, ?_⟩
  · simpa [allowedAddress] using h1
  · unfold memoOk at h2
    by_cases he : a.allowedMemos = []
    · simpa [he] using h2
    · by_cases hs : a.allowedMemos = [allowAll]
      · simp [hs, allowAll]
      · simpa [he, hs] using h2

/-- the allocation disappears when its spend limit is exhausted (and the whole grant is deleted with
    its last allocation) -/
theorem exhausted_allocation_removed (norm : String → String) (g : List Allocation) (m : Msg) (p c d : String)
    (hwf : GrantWF g) (hb : BoundedOn g p c d) (hm : m.port = p ∧ m.chan = c ∧ m.denom = d)
    (hacc : (accept norm g m).accepted = true) (hall : m.amount = remaining g p c d) :
    remaining (nextGrant g (accept norm g m)) p c d = 0 := by
  have := limit_decreases_exactly norm g m p c d hwf hb
  simp only [hacc, hm, and_self, if_true] at this
  omega

/-- the 'entire balance' sentinel (2^256−1) is never accepted against a bounded limit -/
theorem sentinel_rejected_on_bounded (norm : String → String) (g : List Allocation) (m : Msg)
    (hwf : GrantWF g) (hb : BoundedOn g m.port m.chan m.denom)
    (hsmall : remaining g m.port m.chan m.denom < unbounded) (hs : m.amount = unbounded) :
    (accept norm g m).accepted = false := by
  cases hacc : (accept norm g m).accepted with
  | false => rfl
  | true =>
    have := limit_decreases_exactly norm g m m.port m.chan m.denom hwf hb
    simp only [hacc, and_self, if_true] at this
    omega

/-- a request on a port/channel without allocation is rejected -/
theorem unknown_channel_rejected (norm : String → String) (g : List Allocation) (m : Msg)
    (h : ∀ a ∈ g, ¬ (a.chan = m.chan ∧ a.port = m.port)) : accept norm g m = .notFound := by
  unfold accept
  cases hfi : findIdx m g with
  | none => rfl
  | some i =>
    obtain ⟨a, hga, hac, hap⟩ := findIdx_spec m g i hfi
    exact absurd ⟨hac, hap⟩ (h a (List.mem_of_getElem? hga))

/-- non-vacuity: a bounded grant of 10 uatom, two requests of 6: the first is accepted, the second not -/
example :
    let g : List Allocation := [⟨"transfer", "channel-0", [("uatom", 10)], [], ["*"]⟩]
    let m : Msg := ⟨"transfer", "channel-0", "uatom", 6, "bob", "x"⟩
    GrantWF g ∧ BoundedOn g "transfer" "channel-0" "uatom" ∧ (run id g [m, m]).2 = [m] := by
  unfold GrantWF CoinsWF BoundedOn
  decide +kernel

end IbcVerif.C36
