/-
  C26 — Solo machine signatures are single-use and timestamps never decrease.
  Property theorems only; helper lemmas live in IbcVerif/Lemmas/Solo.lean.

  Signatures are symbolic (`Sig.signed key bytes`); the sign bytes are the byte-exact protobuf encoding
  of `SignBytes` (`encSignBytes`), proved injective in the sequence number.  `pathDecodes` (gogoproto
  unmarshalling of a MerklePath) is an arbitrary parameter.
-/
import IbcVerif.Model.Solo
import IbcVerif.Lemmas.Solo
namespace IbcVerif.C26
open IbcVerif.Solo

/-- **A proof verifies ⇔** it carries a signature by the current key over the `SignBytes` made of exactly
the current sequence, the proof's timestamp (not older than the consensus timestamp), the current
diversifier, the key at path index 1 and the data; the new state has the sequence consumed and the
timestamp advanced. (`data = value` for membership, `[]` for non-membership.) -/
theorem verifyProof_ok_iff (s s' : State) (proof : ProofArg) (path : PathArg) (data : Bytes) :
    verifyProof s proof path data = .ok s' ↔
      ∃ ts σ pfx key, proof = .mk ts (.sig σ) ∧ s.ts ≤ ts ∧ path = .merkle [pfx, key] ∧
        σ = .signed s.key (encSignBytes ⟨s.seq, ts, s.div, key, data⟩) ∧
        s' = { s with seq := s.seq + 1, ts := ts } := by
  constructor
  · intro h
    unfold verifyProof produceVerificationArgs at h
    rcases proof with _ | _ | ⟨ts, _ | _ | _ | σ⟩
    case mk.sig =>
      by_cases hts : s.ts > ts
      · simp only [hts, if_true] at h; cases h
      simp only [hts, if_false] at h
      rcases path with _ | _ | ⟨pfx, _ | ⟨key, _ | _⟩⟩
      case merkle.cons.cons.nil =>
        simp only [List.length_cons, List.length_nil, bne_self_eq_false, Bool.false_eq_true, if_false,
          List.getD_cons_succ, List.getD_cons_zero, error_else_eq_ok, Bool.not_eq_true, Bool.not_eq_false',
          verifySig_iff, Except.ok.injEq] at h
        exact ⟨ts, σ, pfx, key, rfl, Nat.le_of_not_lt hts, rfl, h.1, h.2.symm⟩
      all_goals cases h
    all_goals cases h
  · rintro ⟨ts, σ, pfx, key, rfl, hts, rfl, rfl, rfl⟩
    simp [verifyProof, produceVerificationArgs, Nat.not_lt.mpr hts, verifySig]

/-- the verification operations: header update, membership and non-membership proofs -/
def isVerification : Op → Bool
  | .vm _ _ _ | .vnm _ _ | .kvm _ _ _ | .kvnm _ _ => true
  | .update _ (.header _) => true
  | _ => false

/-- the signature carried by a proof argument -/
def proofSig : ProofArg → Option Sig
  | .mk _ (.sig σ) => some σ
  | _ => none

/-- the signature an operation presents for verification -/
def sigOf : Op → Option Sig
  | .vm p _ _ | .vnm p _ | .kvm p _ _ | .kvnm p _ => proofSig p
  | .update _ (.header h) => match h.sig with | .sig σ => some σ | _ => none
  | _ => none

/-- A header is accepted ⇔ its timestamp is not older than the consensus timestamp and it is signed by the
current key over (current sequence, header timestamp, current diversifier, sentinel path, header data). -/
theorem verifyHeader_ok_iff (s : State) (h : Header) :
    verifyHeader s h = .ok () ↔
      s.ts ≤ h.ts ∧
      h.sig = .sig (.signed s.key (encSignBytes ⟨s.seq, h.ts, s.div, sentinelHeaderPath, h.hdata⟩)) := by
  unfold verifyHeader
  cases h.sig <;> simp [error_else_eq_ok, verifySig_iff]

/-- what a successful verification proves about its signature: it is by the current key, over the
encoding of a `SignBytes` whose sequence is the current one, whose diversifier is the current one and
whose timestamp is not older than the consensus timestamp; the sequence is consumed and the consensus
timestamp becomes the signed one -/
theorem accepted_sig (pd : Bytes → Bool) (s : State) (op : Op) (hv : isVerification op = true)
    (hok : (step pd s op).2 = .ok) :
    ∃ σ sb, sigOf op = some σ ∧ σ = .signed s.key (encSignBytes sb) ∧ sb.seq = s.seq ∧
      sb.div = s.div ∧ s.ts ≤ sb.ts ∧
      (step pd s op).1.seq = s.seq + 1 ∧ (step pd s op).1.ts = sb.ts := by
  rcases step_cases pd s op with ⟨e, h⟩ | ⟨p, path, data, s', hop, hr, h⟩ | ⟨v, hd, rfl, hx, h⟩ |
    ⟨v, w, rfl, -⟩
  · rw [h] at hok; cases hok
  · obtain ⟨ts, σ, pfx, key, rfl, hts, rfl, rfl, rfl⟩ := (verifyProof_ok_iff s s' _ _ data).mp hr
    rw [h]
    refine ⟨_, ⟨s.seq, ts, s.div, key, data⟩, ?_, rfl, rfl, rfl, hts, rfl, rfl⟩
    rcases hop with rfl | rfl | ⟨-, rfl | rfl⟩ <;> rfl
  · obtain ⟨hts, hs⟩ := (verifyHeader_ok_iff s hd).mp hx
    rw [h]
    exact ⟨_, ⟨s.seq, hd.ts, s.div, sentinelHeaderPath, hd.hdata⟩, by simp [sigOf, hs], rfl, rfl, rfl, hts,
      rfl, rfl⟩
  · cases hv

/-- **Every successful verification (header, membership, non-membership) consumes the sequence.** -/
theorem success_consumes_sequence (pd : Bytes → Bool) (s : State) (op : Op)
    (hv : isVerification op = true) (hok : (step pd s op).2 = .ok) :
    (step pd s op).1.seq = s.seq + 1 := by
  obtain ⟨_, _, _, _, _, _, _, h, _⟩ := accepted_sig pd s op hv hok
  exact h

/-- failures change nothing -/
theorem failure_changes_nothing (pd : Bytes → Bool) (s : State) (op : Op) (e : Err)
    (h : (step pd s op).2 = .err e) : (step pd s op).1 = s := by
  rcases step_cases pd s op with ⟨_, h'⟩ | ⟨_, _, _, _, _, _, h'⟩ | ⟨_, _, _, _, h'⟩ | ⟨_, _, _, _, h'⟩
  · rw [h']
  all_goals rw [h'] at h; cases h

/-- one step never lowers the sequence or the consensus timestamp -/
theorem step_monotone (pd : Bytes → Bool) (s : State) (op : Op) :
    s.seq ≤ (step pd s op).1.seq ∧ s.ts ≤ (step pd s op).1.ts := by
  rcases step_cases pd s op with ⟨_, h⟩ | ⟨p, path, data, s', -, hr, h⟩ | ⟨_, hd, -, hx, h⟩ |
    ⟨_, _, -, -, h⟩ <;> rw [h]
  · exact ⟨Nat.le_refl _, Nat.le_refl _⟩
  · obtain ⟨ts, _, _, _, -, hts, -, -, rfl⟩ := (verifyProof_ok_iff s s' p path data).mp hr
    exact ⟨Nat.le_succ _, hts⟩
  · exact ⟨Nat.le_succ _, ((verifyHeader_ok_iff s hd).mp hx).1⟩
  · exact ⟨Nat.le_refl _, Nat.le_refl _⟩

/-- **Over all histories the sequence never decreases and the consensus timestamp never decreases.** -/
theorem seq_and_timestamp_monotone (pd : Bytes → Bool) (s : State) (ops : List Op) :
    s.seq ≤ (run pd s ops).1.seq ∧ s.ts ≤ (run pd s ops).1.ts := by
  induction ops generalizing s with
  | nil => exact ⟨Nat.le_refl _, Nat.le_refl _⟩
  | cons op ops ih =>
    have h1 := step_monotone pd s op
    have h2 := ih (step pd s op).1
    simp only [run]
    exact ⟨Nat.le_trans h1.1 h2.1, Nat.le_trans h1.2 h2.2⟩

/-- **A signature is accepted at most once**: after it has been accepted by a verification (header,
membership or non-membership), no verification presenting the same signature succeeds in any later
state — whatever happens in between (further proofs, key rotations, replays). -/
theorem sig_single_use (pd : Bytes → Bool) (s : State) (op op' : Op) (between : List Op) (σ : Sig)
    (hv : isVerification op = true) (hok : (step pd s op).2 = .ok) (hσ : sigOf op = some σ)
    (hv' : isVerification op' = true) (hσ' : sigOf op' = some σ) :
    (step pd (run pd (step pd s op).1 between).1 op').2 ≠ .ok := by
  intro hok'
  obtain ⟨_, sb1, hs1, rfl, hq1, -, -, hn1, -⟩ := accepted_sig pd s op hv hok
  obtain ⟨_, sb2, hs2, he2, hq2, -⟩ := accepted_sig pd (run pd (step pd s op).1 between).1 op' hv' hok'
  cases hσ.symm.trans hs1
  cases hσ'.symm.trans hs2
  have hseq := encSignBytes_seq_inj sb1 sb2 (Sig.signed.inj he2).2
  have hmono := (seq_and_timestamp_monotone pd (step pd s op).1 between).1
  omega

/-- **Misbehaviour freezes**: a misbehaviour message whose two signatures are by the current key over
(its sequence, their timestamps, the current diversifier, their paths and data) — different data by
`ValidateBasic` — freezes an active client. -/
theorem misbehaviour_freezes (pd : Bytes → Bool) (s : State) (w : MisbehaviourWire) (validate : Bool)
    (hact : s.frozen = false)
    (hvb : validate = true → misbehaviourValidateBasic w = .ok ())
    (hp1 : pd w.m.one.path = true) (hp2 : pd w.m.two.path = true)
    (h1 : w.m.one.sig = .sig (.signed s.key
      (encSignBytes ⟨w.m.seq, w.m.one.ts, s.div, w.m.one.path, w.m.one.data⟩)))
    (h2 : w.m.two.sig = .sig (.signed s.key
      (encSignBytes ⟨w.m.seq, w.m.two.ts, s.div, w.m.two.path, w.m.two.data⟩))) :
    step pd s (.update validate (.misbehaviour w)) = ({ s with frozen := true }, .ok) := by
  have hm : verifyMisbehaviour pd s w.m = .ok () :=
    (verifyMisbehaviour_ok_iff pd s w.m).mpr ⟨⟨hp1, h1⟩, ⟨hp2, h2⟩⟩
  cases validate <;> simp [step, validateMsg, updateClient, hvb, hact, hm]

/-- `ValidateBasic` of a misbehaviour guarantees the two signed messages differ in path or data. -/
theorem misbehaviour_validated_differs (w : MisbehaviourWire) (h : misbehaviourValidateBasic w = .ok ()) :
    w.m.seq ≠ 0 ∧ (w.m.one.path ≠ w.m.two.path ∨ w.m.one.data ≠ w.m.two.data) := by
  unfold misbehaviourValidateBasic at h
  cases h1 : sigAndDataValidateBasic w.sigOneEmpty w.m.one <;>
    cases h2 : sigAndDataValidateBasic w.sigTwoEmpty w.m.two <;>
    simp only [h1, h2, error_else_eq_ok, reduceCtorEq, and_false] at h
  simpa [Decidable.imp_iff_not_or] using And.intro h.1 h.2.2.1

/-- The client freezes only so: if an operation freezes an active client it is a misbehaviour message
carrying two signatures by the current key over the same sequence. -/
theorem freeze_only_by_misbehaviour (pd : Bytes → Bool) (s : State) (op : Op)
    (hact : s.frozen = false) (hfr : (step pd s op).1.frozen = true) :
    ∃ validate w, op = .update validate (.misbehaviour w) ∧
      w.m.one.sig = .sig (.signed s.key
        (encSignBytes ⟨w.m.seq, w.m.one.ts, s.div, w.m.one.path, w.m.one.data⟩)) ∧
      w.m.two.sig = .sig (.signed s.key
        (encSignBytes ⟨w.m.seq, w.m.two.ts, s.div, w.m.two.path, w.m.two.data⟩)) := by
  rcases step_cases pd s op with ⟨_, h⟩ | ⟨p, path, data, s', -, hr, h⟩ | ⟨_, _, -, -, h⟩ |
    ⟨v, w, rfl, hm, -⟩
  · rw [h, hact] at hfr; cases hfr
  · obtain ⟨_, _, _, _, -, -, -, -, rfl⟩ := (verifyProof_ok_iff s s' p path data).mp hr
    rw [h] at hfr; cases hact.symm.trans hfr
  · rw [h] at hfr; cases hact.symm.trans hfr
  · obtain ⟨⟨-, h1⟩, -, h2⟩ := (verifyMisbehaviour_ok_iff pd s w.m).mp hm
    exact ⟨v, w, rfl, h1, h2⟩

/-- **A frozen client accepts nothing through the 02-client keeper** (`VerifyMembership`,
`VerifyNonMembership`, `UpdateClient` are all behind the status gate). -/
theorem frozen_rejects_all (pd : Bytes → Bool) (s : State) (hfr : s.frozen = true) :
    (∀ p path v, step pd s (.kvm p path v) = (s, .err .clientNotActive)) ∧
    (∀ p path, step pd s (.kvnm p path) = (s, .err .clientNotActive)) ∧
    (∀ msg, step pd s (.update false msg) = (s, .err .clientNotActive)) ∧
    (∀ msg, (step pd s (.update true msg)).1 = s ∧ ∃ e, (step pd s (.update true msg)).2 = .err e) := by
  have hu : ∀ msg, updateClient pd s msg = (s, .err .clientNotActive) := fun msg => by simp [updateClient, hfr]
  refine ⟨by simp [step, hfr], by simp [step, hfr], fun msg => by simp [step, validateMsg, hu], fun msg => ?_⟩
  simp only [step, hu]
  split <;> simp

/-- the evidence one would submit for two membership proofs the client accepts at the same sequence for the
same key and different values: the two signatures, with the raw key as path -/
def evidence (s : State) (ts1 ts2 : Nat) (σ1 σ2 : Sig) (key v1 v2 : Bytes) : MisbehaviourWire :=
  ⟨⟨s.seq, ⟨.sig σ1, key, v1, ts1⟩, ⟨.sig σ2, key, v2, ts2⟩⟩, false, false, false⟩

/-- Such evidence freezes the client **iff the raw key happens to unmarshal as a protobuf MerklePath**:
`verifySignatureAndData` requires `SignatureAndData.Path` to decode as a MerklePath, while proofs are
signed over the raw key `KeyPath[1]`. -/
theorem equivocation_evidence_freezes_iff (pd : Bytes → Bool) (s : State) (ts1 ts2 : Nat) (σ1 σ2 : Sig)
    (pfx key v1 v2 : Bytes) (s1 s2 : State)
    (hact : s.frozen = false) (hseq : s.seq ≠ 0) (hne : v1 ≠ v2) (hv1 : v1 ≠ []) (hv2 : v2 ≠ [])
    (hk : key ≠ []) (ht1 : ts1 ≠ 0) (ht2 : ts2 ≠ 0)
    (h1 : verifyProof s (.mk ts1 (.sig σ1)) (.merkle [pfx, key]) v1 = .ok s1)
    (h2 : verifyProof s (.mk ts2 (.sig σ2)) (.merkle [pfx, key]) v2 = .ok s2) :
    (step pd s (.update true (.misbehaviour (evidence s ts1 ts2 σ1 σ2 key v1 v2)))).1.frozen = true ↔
      pd key = true := by
  obtain ⟨_, _, _, _, e1, -, ep1, es1, -⟩ := (verifyProof_ok_iff _ _ _ _ _).mp h1
  obtain ⟨_, _, _, _, e2, -, ep2, es2, -⟩ := (verifyProof_ok_iff _ _ _ _ _).mp h2
  cases e1; cases e2; cases ep1; cases ep2
  -- an active client freezes on a validated misbehaviour exactly when `verifyMisbehaviour` accepts it
  have hstep : ∀ w, misbehaviourValidateBasic w = .ok () →
      ((step pd s (.update true (.misbehaviour w))).1.frozen = true ↔ verifyMisbehaviour pd s w.m = .ok ()) := by
    intro w hvb
    simp only [step, validateMsg, hvb, updateClient, hact]
    cases verifyMisbehaviour pd s w.m <;> simp [hact]
  rw [hstep _ (by simp [misbehaviourValidateBasic, evidence, sigAndDataValidateBasic, hv1, hv2, hk, hseq, ht1, ht2,
    hne]), verifyMisbehaviour_ok_iff]
  simp [evidence, es1, es2]

/-- The property read on the signatures the client itself accepts: two valid proof signatures for one
sequence over different data can be turned into evidence that freezes the client. -/
def equivocation_punishable_full : Prop :=
  ∀ (pd : Bytes → Bool) (s : State) (ts1 ts2 : Nat) (σ1 σ2 : Sig) (pfx key v1 v2 : Bytes) (s1 s2 : State),
    s.frozen = false → s.seq ≠ 0 → v1 ≠ v2 → v1 ≠ [] → v2 ≠ [] → key ≠ [] → ts1 ≠ 0 → ts2 ≠ 0 →
    verifyProof s (.mk ts1 (.sig σ1)) (.merkle [pfx, key]) v1 = .ok s1 →
    verifyProof s (.mk ts2 (.sig σ2)) (.merkle [pfx, key]) v2 = .ok s2 →
    (step pd s (.update true (.misbehaviour (evidence s ts1 ts2 σ1 σ2 key v1 v2)))).1.frozen = true

/-- **False of the code** whenever the key does not decode as a MerklePath — which is the case for the
ICS-24 keys solo machines sign (e.g. "connections/connection-0": first byte 0x63 = field 12, wire type 3).
The harness monitor `solo` replays this on the real client (key "equivocation-unpunishable"). -/
theorem equivocation_punishable_full_false : ¬ equivocation_punishable_full := by
  intro hfull
  have hp : ∀ v, verifyProof ⟨1, false, 7, [100], 5⟩
      (.mk 6 (.sig (.signed 7 (encSignBytes ⟨1, 6, [100], [99], v⟩)))) (.merkle [[105], [99]]) v =
        .ok ⟨2, false, 7, [100], 6⟩ :=
    fun v => (verifyProof_ok_iff ..).mpr ⟨6, _, [105], [99], rfl, by decide, rfl, rfl, rfl⟩
  -- no path decodes: by `equivocation_evidence_freezes_iff` the evidence does not freeze
  have hfr := hfull (fun _ => false) _ 6 6 _ _ [105] [99] [1] [2] _ _ rfl (by decide) (by decide) (by decide)
    (by decide) (by decide) (by decide) (by decide) (hp [1]) (hp [2])
  revert hfr
  decide +kernel

/-- a proof at sequence 1 is accepted once; its replay, the same signature presented for another value and
a proof signed for a stale timestamp are rejected; the sequence advanced exactly once. -/
example :
    let s : State := ⟨1, false, 7, [100], 5⟩
    let σ := Sig.signed 7 (encSignBytes ⟨1, 6, [100], [99], [1]⟩)
    let p := ProofArg.mk 6 (.sig σ)
    run (fun _ => true) s [.vm p (.merkle [[105], [99]]) [1], .vm p (.merkle [[105], [99]]) [1],
        .vm p (.merkle [[105], [99]]) [2], .vm (.mk 4 (.sig σ)) (.merkle [[105], [99]]) [1]]
      = (⟨2, false, 7, [100], 6⟩, [.ok, .err .sigVerificationFailed, .err .sigVerificationFailed,
          .err .invalidProof]) := by
  decide +kernel

end IbcVerif.C26
