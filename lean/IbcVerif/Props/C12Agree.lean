/-
  C12 — Channel handshake safety, two-chain agreement half.

  World: two L3 chain states A and B (`Model/ChainPair.lean`).  Every op runs on one side through the
  ordinary single-chain `step`; the proof verdict of a channel / connection handshake step is DERIVED
  from the other side's current store (HonestClient: the proof verifies iff the counterparty store
  holds exactly the end the handler expects, under the counterparty's real prefix).  Everything else
  — application results, signers, client status, packet-proof verdicts, interleaving — is adversarial.
  Proofs are against the counterparty's CURRENT state; proofs of stale heights are not modelled.
-/
import IbcVerif.Lemmas.ChainPair
namespace IbcVerif.C12A
open IbcVerif IbcVerif.Chain

/-- If, after any interleaving of ops on the two chains, a channel end on A and a channel end on B
    are both OPEN and one of them names the other as its counterparty, then: each names the other
    (port and channel ids), they have the same ordering and the same version, each has exactly one
    connection hop, the two hop connections are OPEN and are each other's counterparty connections. -/
theorem both_open_agree (ops : List (Bool × Op)) (pa ca pb cb : Id) (ea eb : Channel)
    (ha : (prun World.init ops).a.chan.get (pa, ca) = some ea)
    (hb : (prun World.init ops).b.chan.get (pb, cb) = some eb)
    (hoa : ea.state = .opened) (hob : eb.state = .opened)
    (hname : (ea.cpPort = pb ∧ ea.cpChan = cb) ∨ (eb.cpPort = pa ∧ eb.cpChan = ca)) :
    ea.cpPort = pb ∧ ea.cpChan = cb ∧ eb.cpPort = pa ∧ eb.cpChan = ca ∧
    ea.ordering = eb.ordering ∧ ea.version = eb.version ∧
    ∃ hopA hopB connA connB, ea.hops = [hopA] ∧ eb.hops = [hopB] ∧
      (prun World.init ops).a.conn.get hopA = some connA ∧ (prun World.init ops).b.conn.get hopB = some connB ∧
      connA.state = .opened ∧ connB.state = .opened ∧ connA.cpConn = hopB ∧ connB.cpConn = hopA := by
  have hp := pinv_prun_init ops
  obtain ⟨b, hopA, connA, hb', _, g1, g2, g3, g4, g5, g6, g7, g8⟩ := hp.ab.chan pa ca ea ha hoa
  obtain ⟨a, hopB, connB, ha', _, _, k2, k3, _, k5, k6, k7, k8⟩ := hp.ba.chan pb cb eb hb hob
  obtain ⟨⟨n1, n2⟩, n3, n4⟩ : (ea.cpPort = pb ∧ ea.cpChan = cb) ∧ (eb.cpPort = pa ∧ eb.cpChan = ca) := by
    rcases hname with ⟨h1, h2⟩ | ⟨h1, h2⟩
    · rw [h1, h2, hb] at hb'; cases hb'
      exact ⟨⟨h1, h2⟩, g2, g3⟩
    · rw [h1, h2, ha] at ha'; cases ha'
      exact ⟨⟨k2, k3⟩, h1, h2⟩
  rw [n1, n2, hb] at hb'; cases hb'
  rw [n3, n4, ha] at ha'; cases ha'
  have hB : hopB = connA.cpConn := by rw [g8] at k5; simpa using k5.symm
  have hA : hopA = connB.cpConn := by rw [k8] at g5; simpa using g5.symm
  refine ⟨n1, n2, n3, n4, g1.symm, g4.symm, hopA, hopB, connA, connB, ?_, ?_, g6, k6, g7, k7, hB.symm, hA.symm⟩
  · rw [k8, hA]
  · rw [g8, hB]

/-- A channel end becomes OPEN only by its own ChanOpenAck / ChanOpenConfirm, and at that moment the
    counterparty chain holds, under the counterparty port/channel ids the end now records, an end in
    state TRYOPEN (for ACK) resp. OPEN (for CONFIRM) with the same ordering and version, naming this
    end as its counterparty, whose single hop is the counterparty connection of this end's (OPEN)
    connection.  Holds from every world state (no reachability assumption needed). -/
theorem open_requires_counterparty_state (w : World) (side : Bool) (op : Op) (p c : Id) (e' : Channel)
    (he' : (chainOf (pstep w side op) side).chan.get (p, c) = some e') (ho' : e'.state = .opened)
    (hnew : ∀ e, (chainOf w side).chan.get (p, c) = some e → e.state ≠ .opened) :
    ChanOpenWitness (chainOf w side) (chainOf w (!side)) op.body p c e' := by
  cases side with
  | false =>
    simp only [chainOf, Chain.pstep, Bool.false_eq_true, if_false, Bool.not_false, if_true] at *
    exact chan_open_step he' ho' hnew
  | true =>
    simp only [chainOf, Chain.pstep, if_true, Bool.not_true, Bool.false_eq_true, if_false] at *
    exact chan_open_step he' ho' hnew

/-- ChanCloseConfirm succeeds only if the counterparty end is CLOSED at that moment (with matching
    ordering, version, counterparty ids and hop). -/
theorem close_confirm_requires_closed (w : World) (side : Bool) (env : Env) (p c : Id) (app : AppV1) (r : String)
    (h : (sideStep (chainOf w side) (chainOf w (!side)) ⟨env, .chanCloseConfirm p c app⟩).2 = .ok r) :
    ∃ ch b hop conn, (chainOf w side).chan.get (p, c) = some ch ∧
      (chainOf w (!side)).chan.get (ch.cpPort, ch.cpChan) = some b ∧ b.state = .closed ∧
      b.ordering = ch.ordering ∧ b.cpPort = p ∧ b.cpChan = c ∧ b.version = ch.version ∧
      ch.hops.head? = some hop ∧ (chainOf w side).conn.get hop = some conn ∧ b.hops = [conn.cpConn] :=
  close_confirm_step h

/-- the world invariant behind `both_open_agree` holds in every reachable world -/
theorem agreement_invariant (ops : List (Bool × Op)) : PInv (prun World.init ops) := pinv_prun_init ops

/-- non-vacuity of the HonestClient derivation: whatever the adversarial input says, the ChanOpenAck proof
    verifies when the counterparty holds the matching TRYOPEN end and fails when it holds an INIT end -/
example : honestV1 Ex.wInit Ex.wTry Ex.ackBody false = true ∧ honestV1 Ex.wInit Ex.wInit Ex.ackBody true = false := by
  decide +kernel

end IbcVerif.C12A
