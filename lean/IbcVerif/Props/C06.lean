/-
  C06 — Acknowledgements are processed only if proven for that exact packet.

  `Relay.ackV1` / `Relay.ackV2` (Model/Relay.lean) are the acknowledgement transactions of IBC v1 / v2
  as functions of the facts the handlers read, guard by guard in the order of the code; the `world`
  engine (group `relay`) replays every generated acknowledgement attempt (valid messages and every
  single-field / random two-field mutation: ack bytes, app-ack list reordered / truncated / extended,
  packet fields, sequence, proof bytes, proof key, proof height, signer) against the model on every run.
  The proof enters as ground truth about the counterparty's store (`ProofFacts`).

  "Processed" = verdict `ok`: the commitment is deleted and `OnAcknowledgementPacket` runs with the
  message's acknowledgement.  `noop` processes nothing (no write, no callback).

  The "a rejected acknowledgement changes no state" half is proved on the L3 chain model
  (Model/Chain.lean, chain cluster) and monitored here on the real chains (store diff around every
  failed or NOOP transaction, and the argument of every `OnAcknowledgementPacket` invocation compared
  with what the destination wrote).
-/
import IbcVerif.Lemmas.Relay
import IbcVerif.Props.C07
import IbcVerif.Props.C16
namespace IbcVerif.C06
open IbcVerif IbcVerif.Relay IbcVerif.Commit

variable (H : Bytes → Bytes)

/-- everything a v1 acknowledgement checks before it looks at the stored commitment: well-formed,
    correctly signed message for a routable port; the *source* channel end and its connection OPEN;
    the packet's destination is the channel's counterparty -/
def ChannelOpenToCounterpartyV1 (f : AckV1) (ch : ChanEnd) (cn : ConnEnd) : Prop :=
  f.proofEmpty = false ∧ f.ack ≠ [] ∧ f.env.signerOK = true ∧ f.pkt.basic = none ∧ f.env.sigOK = true ∧ f.route = true ∧
  f.chan = some ch ∧ f.conn = some cn ∧ ch.state = STATE_OPEN ∧ cn.state = STATE_OPEN ∧
  f.pkt.dstPort = ch.cpPort ∧ f.pkt.dstChan = ch.cpChan

/-- **v1 success.**  An acknowledgement is processed exactly when: the channel conditions hold; the
    sender still stores a commitment for (source port, source channel, sequence) and it equals
    `CommitPacket(packet)`; the bytes are in canonical form when they parse as a channel
    acknowledgement; the client is Active with a consensus state at the proof height and the delay
    passed; the counterparty's store holds exactly `CommitAcknowledgement(bytes)` under exactly
    `PacketAcknowledgementKey(destPort, destChannel, sequence)`; and, on ORDERED channels, the
    sequence is `nextSequenceAck`. -/
theorem ack_v1_success_iff (f : AckV1) :
    ackV1 H f = .ok ↔ ∃ ch cn, ChannelOpenToCounterpartyV1 f ch cn ∧
      f.commitment ≠ [] ∧ f.ackCanonical = true ∧ f.commitment = commitV1 H f.pkt.committed ∧
      cn.cpPrefix ≠ [] ∧
      ClientReady f.env f.client f.proof cn.delay (Delay.getBlockDelay cn.delay f.maxTimePerBlock) ∧
      f.proof.proves (pathV1 cn.cpPrefix f.key) (commitAckV1 H f.ack) = true ∧
      (ch.ordering = ORDER_ORDERED → f.nextAck = some f.pkt.seq.toNat) := by
  simp only [ackV1, openGate_eq ok_passes, check_eq ok_passes, pass_eq ok_passes, ite_noop_ok, verifyV1_none_iff,
    ackOrder_ok, Bool.not_eq_true', decide_eq_true_eq, ChannelOpenToCounterpartyV1, List.isEmpty_eq_false_iff,
    List.isEmpty_iff, ne_eq, and_assoc, exists_and_left]

/-- **v1 NOOP.**  No stored commitment (already acknowledged, timed out, or never sent) is answered
    NOOP *without looking at the proof* (the code returns before `VerifyPacketAcknowledgement`);
    nothing is written and the application is not called. -/
theorem ack_v1_noop_iff (f : AckV1) :
    ackV1 H f = .noop ↔ ∃ ch cn, ChannelOpenToCounterpartyV1 f ch cn ∧ f.commitment = [] := by
  simp only [ackV1, openGate_eq noop_passes, check_eq noop_passes, pass_eq noop_passes, ite_noop_noop,
    ackOrder_ne_noop, and_false, or_false, Bool.not_eq_true', decide_eq_true_eq, ChannelOpenToCounterpartyV1,
    List.isEmpty_eq_false_iff, List.isEmpty_iff, ne_eq, and_assoc, exists_and_left]

/-- everything a v2 acknowledgement checks before it looks at the stored commitment -/
def FromRegisteredCounterpartyV2 (f : AckV2) (cp : CpV2) : Prop :=
  f.proofEmpty = false ∧ ackV2Valid H f.acks = true ∧ f.env.signerOK = true ∧ f.pkt.basic = none ∧
  f.env.sigOK = true ∧ f.relayerAllowed = true ∧
  f.cp = some cp ∧ cp.clientId = f.pkt.dstClient

/-- **v2 success.**  Counterparty registered for the *source* client and equal to the packet's
    destination client; the stored commitment for (source client, sequence) equals `CommitPacket(packet)`;
    client Active with a consensus state at the proof height; the counterparty's store holds exactly
    `CommitAcknowledgement(appAcks)` under `PacketAcknowledgementKey(destClient, sequence)` behind the
    registered merkle prefix. -/
theorem ack_v2_success_iff (f : AckV2) :
    ackV2 H f = .ok ↔ ∃ cp, FromRegisteredCounterpartyV2 H f cp ∧
      f.commitment ≠ [] ∧ f.commitment = commitV2 H f.pkt.committed ∧
      ClientReady f.env f.client f.proof 0 0 ∧
      f.proof.proves (pathV2 cp.pre f.key) (commitAckV2 H f.acks) = true := by
  simp only [ackV2, check_eq ok_passes, need_eq ok_passes, pass_eq ok_passes, ite_noop_ok, verifyMembership_none_iff, Bool.not_eq_true',
    decide_eq_true_eq, FromRegisteredCounterpartyV2, List.isEmpty_iff, ne_eq, and_true, and_assoc, exists_and_left]

/-- **v2 NOOP**: no stored commitment, answered before the proof is looked at. -/
theorem ack_v2_noop_iff (f : AckV2) :
    ackV2 H f = .noop ↔ ∃ cp, FromRegisteredCounterpartyV2 H f cp ∧ f.commitment = [] := by
  simp only [ackV2, check_eq noop_passes, need_eq noop_passes, pass_eq noop_passes, ite_noop_noop, reduceCtorEq, and_false, or_false,
    Bool.not_eq_true', decide_eq_true_eq, FromRegisteredCounterpartyV2, List.isEmpty_iff, and_assoc, exists_and_left]

/-- **what a processed v1 acknowledgement proves.**  The sender's stored commitment is
    `CommitPacket(packet)`, and the counterparty's store holds under *exactly*
    `PacketAcknowledgementKey(destPort, destChannel, sequence)` *exactly*
    `CommitAcknowledgement(ack bytes)`, read from an uncorrupted proof built for the proof height. -/
theorem ack_v1_proven (f : AckV1) (h : ackV1 H f = .ok) :
    f.commitment = commitV1 H f.pkt.committed ∧
    f.proof.intact = true ∧ f.proof.builtAt = f.proof.height ∧
    (∃ cn, f.conn = some cn ∧ f.proof.store = cn.cpPrefix) ∧
    f.proof.readKey = Keys.v1Key .ack f.pkt.dstPort f.pkt.dstChan f.pkt.seq.toNat ∧
    f.proof.provenValue = some (commitAckV1 H f.ack) := by
  obtain ⟨ch, cn, hb, _, _, hc, _, _, hp, _⟩ := (ack_v1_success_iff H f).mp h
  obtain ⟨a, b, c, d, e⟩ := (proves_v1_iff _ _ _ _).mp hp
  exact ⟨hc, a, b, ⟨cn, hb.2.2.2.2.2.2.2.1, c⟩, d, e⟩

theorem ack_v2_proven (f : AckV2) (h : ackV2 H f = .ok) :
    f.commitment = commitV2 H f.pkt.committed ∧
    f.proof.intact = true ∧ f.proof.builtAt = f.proof.height ∧
    (∃ cp l, f.cp = some cp ∧ cp.pre.getLast? = some l ∧
      f.proof.readKey = l ++ Keys.v2Key .ack f.pkt.dstClient f.pkt.seq.toNat) ∧
    f.proof.provenValue = some (commitAckV2 H f.acks) := by
  obtain ⟨cp, hb, _, hc, _, hp⟩ := (ack_v2_success_iff H f).mp h
  obtain ⟨a, b, c, d⟩ := (proves_iff _ _ _).mp hp
  obtain ⟨l, hl, hk⟩ := pathV2_key _ _ _ _ c
  exact ⟨hc, a, b, ⟨cp, l, hb.2.2.2.2.2.2.1, hl, hk⟩, d⟩

/-- **ack_binds (v1).**  If the entry the proof was built from was written by the counterparty as the
    acknowledgement `a` of the packet received on (`dp`, `dc`) with sequence `n`
    (`WriteAcknowledgement` stores `CommitAcknowledgement(a)` under `PacketAcknowledgementKey(dp, dc, n)`),
    then a processed acknowledgement message names exactly that destination port, destination channel
    and sequence (C16) and carries exactly the bytes `a` (C07) — or an explicit collision exists. -/
theorem ack_binds_v1 (f : AckV1) (h : ackV1 H f = .ok)
    (dp dc : Bytes) (n : Nat) (a : Bytes) (hdp : Keys.IdOK dp) (hdc : Keys.IdOK dc)
    (hkey : f.proof.readKey = Keys.v1Key .ack dp dc n)
    (hval : f.proof.provenValue = some (commitAckV1 H a)) :
    (f.pkt.dstPort = dp ∧ f.pkt.dstChan = dc ∧ f.pkt.seq.toNat = n ∧ f.ack = a) ∨ Collision H := by
  obtain ⟨_, _, _, _, hk, hv⟩ := ack_v1_proven H f h
  obtain ⟨ch, cn, hb, _⟩ := (ack_v1_success_iff H f).mp h
  obtain ⟨_, i2, _, i4, _⟩ := pktV1_basic_none _ hb.2.2.2.1
  obtain ⟨_, e1, e2, e3⟩ := C16.v1_keys_injective _ _ _ _ _ _ _ _ i2 i4 hdp hdc (hk.symm.trans hkey)
  exact (C07.v1_ack_binds H _ _ (Option.some.inj (hv.symm.trans hval))).imp_left fun e => ⟨e1, e2, e3 rfl, e⟩

/-- **ack_binds (v2).**  Same for v2: destination client and sequence (C16), and the *ordered list* of
    application acknowledgements — length, order and every element (C07). -/
theorem ack_binds_v2 (hlen : ∀ b, (H b).length = 32) (f : AckV2) (h : ackV2 H f = .ok)
    (cp : CpV2) (l : Bytes) (hcp : f.cp = some cp) (hl : cp.pre.getLast? = some l)
    (dc : Bytes) (n : Nat) (as : List Bytes) (hn : n < 2^64)
    (hkey : f.proof.readKey = l ++ Keys.v2Key .ack dc n)
    (hval : f.proof.provenValue = some (commitAckV2 H as)) :
    (f.pkt.dstClient = dc ∧ f.pkt.seq.toNat = n ∧ f.acks = as) ∨ Collision H := by
  obtain ⟨_, _, _, ⟨cp', l', hcp', hl', hk⟩, hv⟩ := ack_v2_proven H f h
  cases hcp.symm.trans hcp'
  cases hl.symm.trans hl'
  obtain ⟨_, e1, e2⟩ := C16.v2_keys_injective _ _ _ _ _ _ (UInt64.toNat_lt _) hn
    (List.append_cancel_left (hk.symm.trans hkey))
  exact (C07.v2_ack_binds H hlen _ _ (Option.some.inj (hv.symm.trans hval))).imp_left fun e => ⟨e1, e2, e⟩

/-- **the packet hashes to the stored commitment (v1).**  If the sender's store entry was written by
    `SendPacket` for fields `q`, a processed acknowledgement message carries exactly that data and
    timeout, or a collision exists.  (Source port / channel / sequence are the store key the sender
    itself looked up, destination port / channel are bound by the channel end's counterparty.) -/
theorem ack_v1_packet_is_the_committed_one (hlen : ∀ b, (H b).length = 32) (f : AckV1) (h : ackV1 H f = .ok)
    (q : PacketV1) (hq : q.WF) (hstored : f.commitment = commitV1 H q) :
    f.pkt.committed = q ∨ Collision H := by
  obtain ⟨hc, _⟩ := ack_v1_proven H f h
  exact C07.v1_commitment_binds H hlen _ _ (committedV1_WF _) hq (hc.symm.trans hstored)

/-- **the packet hashes to the stored commitment (v2)**: destination client, timeout and the whole
    payload list. -/
theorem ack_v2_packet_is_the_committed_one (hlen : ∀ b, (H b).length = 32) (f : AckV2) (h : ackV2 H f = .ok)
    (q : PacketV2) (hq : q.timeoutTs < 2^64) (hstored : f.commitment = commitV2 H q) :
    f.pkt.committed = q ∨ Collision H := by
  obtain ⟨hc, _⟩ := ack_v2_proven H f h
  exact C07.v2_commitment_binds H hlen _ _ (UInt64.toNat_lt _) hq (hc.symm.trans hstored)

/-- **forged acknowledgements are not processed (v1).**  If the counterparty really stored the
    acknowledgement `a` for (`dp`, `dc`, `n`) and the message differs from that in destination,
    sequence or acknowledgement bytes, then — unless SHA-256 collides — the message is not processed
    (the verdict is an error, or a NOOP when the sender holds no commitment at all). -/
theorem ack_v1_forged_not_processed (hnc : ¬ Collision H) (f : AckV1)
    (dp dc : Bytes) (n : Nat) (a : Bytes) (hdp : Keys.IdOK dp) (hdc : Keys.IdOK dc)
    (hkey : f.proof.readKey = Keys.v1Key .ack dp dc n)
    (hval : f.proof.provenValue = some (commitAckV1 H a))
    (hmut : ¬ (f.pkt.dstPort = dp ∧ f.pkt.dstChan = dc ∧ f.pkt.seq.toNat = n ∧ f.ack = a)) :
    ackV1 H f ≠ .ok :=
  fun h => (ack_binds_v1 H f h dp dc n a hdp hdc hkey hval).elim hmut hnc

/-- **forged acknowledgements are not processed (v2)**: any change of the app-ack list (an element, the
    order, the length), of the destination client or of the sequence. -/
theorem ack_v2_forged_not_processed (hlen : ∀ b, (H b).length = 32) (hnc : ¬ Collision H) (f : AckV2)
    (cp : CpV2) (l : Bytes) (hcp : f.cp = some cp) (hl : cp.pre.getLast? = some l)
    (dc : Bytes) (n : Nat) (as : List Bytes) (hn : n < 2^64)
    (hkey : f.proof.readKey = l ++ Keys.v2Key .ack dc n)
    (hval : f.proof.provenValue = some (commitAckV2 H as))
    (hmut : ¬ (f.pkt.dstClient = dc ∧ f.pkt.seq.toNat = n ∧ f.acks = as)) :
    ackV2 H f ≠ .ok :=
  fun h => (ack_binds_v2 H hlen f h cp l hcp hl dc n as hn hkey hval).elim hmut hnc

/-- non-vacuity: a concrete ORDERED acknowledgement that is processed; the same message with an altered
    ack byte (rejected by the proof); with no commitment left (NOOP, even with a useless proof); with
    an altered data byte (rejected by the commitment comparison, before the proof is looked at) -/
example :
    let mock := strBytes "mock".toList
    let c0 := strBytes "channel-0".toList
    let c1 := strBytes "channel-1".toList
    let pkt : PktV1 := ⟨4, mock, c0, mock, c1, [1, 2, 3], ⟨⟨1, 100⟩, 0⟩⟩
    let S : Bytes → Bytes := fun b => (b ++ List.replicate 32 0).take 32   -- a toy 32-byte "hash"
    let ibc := strBytes "ibc".toList
    let prf : ProofFacts := ⟨⟨1, 55⟩, ⟨1, 55⟩, true, ibc, Keys.v1Key .ack mock c1 4, some (commitAckV1 S [7, 7])⟩
    let cl : ClientFacts := ⟨true, ⟨1, 60⟩, none, none, true, true⟩
    let f : PktV1 → Bytes → Bytes → AckV1 := fun p ack cm =>
      ⟨p, ack, false, ⟨true, true, ⟨1, 50⟩, 1000⟩, true, some ⟨3, 2, mock, c1⟩, some ⟨3, 0, ibc⟩, cm, true, cl, prf,
        30000000000, some 4⟩
    let cm := commitV1 S pkt.committed
    ackV1 S (f pkt [7, 7] cm) = .ok ∧ ackV1 S (f pkt [7, 8] cm) = .err .proof ∧
      ackV1 S (f pkt [9] []) = .noop ∧
      ackV1 S (f { pkt with data := [1, 2, 4] } [7, 7] cm) = .err .invalidPacket := by
  decide +kernel

end IbcVerif.C06
