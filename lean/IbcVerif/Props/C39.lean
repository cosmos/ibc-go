/-
  C39 — GMP accounts are uniquely derived and only act for themselves.
  Model: IbcVerif/Model/Gmp.lean; helper lemmas: IbcVerif/Lemmas/Gmp.lean.
  `H` is the hash behind `address.Module` (SHA-256 in the code), a parameter; binding is stated in
  collision-extraction form, so no injectivity of `H` is assumed.
-/
import IbcVerif.Model.Gmp
import IbcVerif.Lemmas.Gmp
namespace IbcVerif.C39
open IbcVerif IbcVerif.Apps IbcVerif.Gmp

/-- **The derivation key is injective for ALL byte strings** (lengths below 2^64, as every Go slice):
    the 8-byte big-endian length prefixes make the concatenation uniquely decodable, in particular for
    triples whose raw concatenations coincide. -/
theorem gmp_key_injective (c s t c' s' t' : Bytes)
    (hc : c.length < 2 ^ 64) (hs : s.length < 2 ^ 64) (ht : t.length < 2 ^ 64)
    (hc' : c'.length < 2 ^ 64) (hs' : s'.length < 2 ^ 64) (ht' : t'.length < 2 ^ 64)
    (h : accountKey c s t = accountKey c' s' t') : c = c' ∧ s = s' ∧ t = t' :=
  accountKey_inj hc hs ht hc' hs' ht' h

/-- without the prefixes the derivation would not be injective: these two triples have the same raw
    concatenation but different keys -/
example : ([1, 2] ++ [3] ++ ([] : Bytes)) = ([1] ++ [2, 3] ++ ([] : Bytes)) ∧
    accountKey [1, 2] [3] [] ≠ accountKey [1] [2, 3] [] := by decide +kernel

/-- **The address binds the triple** (collision extraction): two triples with the same account address
    are equal, or the two explicit preimages are a collision of `H` (for SHA-256: a SHA-256 collision).
    `hlen`: `H` returns 32 bytes, so the truncation to AccountAddrLen = 32 keeps everything. -/
theorem gmp_address_binds (H : Bytes → Bytes) (hlen : ∀ x, (H x).length = 32) (c s t c' s' t' : Bytes)
    (hc : c.length < 2 ^ 64) (hs : s.length < 2 ^ 64) (ht : t.length < 2 ^ 64)
    (hc' : c'.length < 2 ^ 64) (hs' : s'.length < 2 ^ 64) (ht' : t'.length < 2 ^ 64)
    (h : accountAddress H c s t = accountAddress H c' s' t') :
    (c = c' ∧ s = s' ∧ t = t') ∨
    (addressPreimage H c s t ≠ addressPreimage H c' s' t' ∧
      H (addressPreimage H c s t) = H (addressPreimage H c' s' t')) := by
  unfold accountAddress at h
  rw [List.take_of_length_le (by rw [hlen]; omega), List.take_of_length_le (by rw [hlen]; omega)] at h
  by_cases hp : addressPreimage H c s t = addressPreimage H c' s' t'
  · exact .inl (accountKey_inj hc hs ht hc' hs' ht' (List.append_cancel_left (List.append_cancel_left hp)))
  · exact Or.inr ⟨hp, h⟩

/-- **The mapping never changes once used.**  After a triple has been given an address, using any
    further triples (this one included, any number of times) leaves its address as it was. -/
theorem mapping_stable (H : Bytes → Bytes) (acc : Accounts) (t : Triple) (a : Bytes) (ts : List Triple)
    (h : KV.get acc t = some a) : KV.get (useAll H acc ts) t = some a := by
  induction ts generalizing acc with
  | nil => exact h
  | cons t' rest ih => exact ih _ (getOrCreate_keeps h)

/-- The first use of a triple returns and stores exactly the derived address. -/
theorem first_use_stores_derived (H : Bytes → Bytes) (acc : Accounts) (t : Triple) (h : KV.get acc t = none) :
    (getOrCreate H acc t).2 = accountAddress H t.1 t.2.1 t.2.2 ∧
    KV.get (getOrCreate H acc t).1 t = some (accountAddress H t.1 t.2.1 t.2.2) := by
  unfold getOrCreate
  simp [h, KV.get_set]

/-- A triple that has an address gets that address back, and the mapping is left as it is. -/
theorem known_triple_returns_stored (H : Bytes → Bytes) (acc : Accounts) (t : Triple) (a : Bytes)
    (h : KV.get acc t = some a) : getOrCreate H acc t = (acc, a) := by
  unfold getOrCreate; simp [h]

/-- **Execution decision.**  A GMP packet's messages execute iff the list is non-empty, every message
    has exactly one signer and that signer is this account, and every ValidateBasic / handler succeeds
    in order. -/
theorem gmp_exec_iff {σ : Type} (account : String) (msgs : List (Ica.Msg σ)) (s : σ) :
    (executeTx account msgs s).2 = none ↔
      (msgs ≠ [] ∧ (∀ m ∈ msgs, SingleSigner account m) ∧ HandlersOk msgs s) := by
  rw [executeTx_ok_iff, authenticateTx_none, runMsgs_ok_iff, and_assoc]

/-- **Atomicity**: any failure leaves the state unchanged. -/
theorem gmp_atomic {σ : Type} (account : String) (msgs : List (Ica.Msg σ)) (s : σ) (e : ExecErr)
    (h : (executeTx account msgs s).2 = some e) : (executeTx account msgs s).1 = s := by
  unfold executeTx at *
  cases hauth : authenticateTx account msgs with
  | some e' => rfl
  | none =>
    cases hrun : runMsgs msgs s with
    | error e' => rfl
    | ok s' => simp [hauth, hrun] at h

/-- a message with no signer, or with two signers one of which is the account, is refused -/
example : (executeTx "acct" [⟨"/a", [], true, true, fun s : Nat => some (s + 1)⟩] 0) = (0, some .signerCount) ∧
    (executeTx "acct" [⟨"/a", ["acct", "acct"], true, true, fun s : Nat => some (s + 1)⟩] 0) = (0, some .signerCount) ∧
    (executeTx "acct" ([] : List (Ica.Msg Nat)) 0) = (0, some .emptyPayload) ∧
    (executeTx "acct" [⟨"/a", ["acct"], true, true, fun s : Nat => some (s + 1)⟩,
                       ⟨"/b", ["acct"], true, true, fun s : Nat => some (s + 10)⟩] 0) = (11, none) := by
  decide +kernel

/-- **Outgoing packets: the packet sender is the transaction signer.** -/
theorem send_sender_is_signer (portsOk clientIdsOk dataOk : Bool) (sender : Option Bytes) (signer : Bytes)
    (h : onSend portsOk clientIdsOk dataOk sender signer = none) :
    sender = some signer ∧ portsOk = true ∧ clientIdsOk = true ∧ dataOk = true := by
  simp only [onSend, some_else_eq_none, Bool.not_eq_true', Bool.not_eq_false] at h
  obtain ⟨h1, h2, h3, h4⟩ := h
  cases sender with
  | none => cases h4
  | some a => exact ⟨by simpa [some_else_eq_none] using h4, h1, h2, h3⟩

end IbcVerif.C39
