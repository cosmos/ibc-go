/-
  C22 — Tendermint consensus metadata stays consistent and ordered.
  Property theorems only (model: IbcVerif/Model/Tm*.lean; lemmas: IbcVerif/Lemmas/Tm*.lean).

  The client store is modelled with typed maps for the `consensusStates/{rev}-{h}`, `…/processedTime`,
  `…/processedHeight` families and, at byte level, the `iterateConsensusStates ++ BE64(rev) ++ BE64(h)`
  index kept in bytewise key order (what the KV store iterates in).  `MetaInv` (Model/TmSpec.lean) says:
  index entries are stored under the big-endian key of the height they name, in strictly ascending
  order, and a height has an index entry ⇔ a processed time ⇔ a processed height ⇔ a consensus state.
-/
import IbcVerif.Lemmas.TmClient
namespace IbcVerif.C22
open IbcVerif IbcVerif.Tm

/-- **The metadata invariant holds in every reachable world**, for every client, after every history
    of create / update / misbehaviour / time / upgrade / recover / pruneAll operations with arbitrary
    headers, verdicts and (revision, height) values. -/
theorem metaInv_invariant (ops : List Op) (cid : Nat) : MetaInv ((run World.empty ops).client cid) :=
  ((run_winv ops World.empty winv_empty).stores cid).metaInv

/-- The inductive form: every single operation preserves the world invariant `WInv`, of which `MetaInv` of
    every client store is a part. -/
theorem metaInv_step (w : World) (hw : WInv w) (op : Op) : WInv (step w op).1 := step_winv w hw op

/-- what the invariant means entry by entry: at every height, the consensus state, the processed time,
    the processed height and the iteration entry are all present or all absent; the iteration entry of
    `h` sits under the raw key `BE64(rev) ++ BE64(height)` and points back to `h`; there is exactly one
    index entry per stored height. -/
theorem metaInv_meaning (s : Store) (inv : MetaInv s) (h : Height) :
    ((s.ptime.get h).isSome = true ↔ s.has h) ∧ ((s.pheight.get h).isSome = true ↔ s.has h) ∧
    ((Idx.get s.iter (beHeight h)).isSome = true ↔ s.has h) ∧
    (∀ v, Idx.get s.iter (beHeight h) = some v → v = h) ∧
    (s.has h → (s.iter.filter (fun p => decide (p.2 = h))).length = 1) := by
  refine ⟨inv.ptime h, inv.pheight h, ?_, ?_, ?_⟩
  · rw [get_isSome s.iter inv.keyed h]; exact inv.iter h
  · exact fun v hv => ((get_eq_some s.iter inv.keyed h v).mp hv).1
  · intro hh
    obtain ⟨p, hp, e⟩ := (inv.iter h).mpr hh
    have pos : p ∈ s.iter.filter (fun p => decide (p.2 = h)) := List.mem_filter.mpr ⟨hp, decide_eq_true e⟩
    have all : ∀ q ∈ s.iter.filter (fun p => decide (p.2 = h)), q.2 = h := fun q hq =>
      of_decide_eq_true (List.mem_filter.mp hq).2
    have asc := inv.asc.filter (fun p => decide (p.2 = h))
    -- strictly ascending ⇒ no two entries name the same height
    match hf : s.iter.filter (fun p => decide (p.2 = h)) with
    | [] => rw [hf] at pos; cases pos
    | [_] => exact congrArg List.length hf
    | a :: b :: _ =>
      rw [hf] at all asc
      have := (List.pairwise_cons.mp asc).1 b List.mem_cons_self
      rw [all a List.mem_cons_self, all b (List.mem_cons_of_mem _ List.mem_cons_self)] at this
      omega

/-- **Big-endian iteration order = height order, for ALL (revision, height)** — no assumption on the
    byte values of the encodings (0x2F '/', 0xFF, 0x00 are not special) -/
theorem iteration_key_order (a b : Height) :
    bytesLt (beHeight a) (beHeight b) = true ↔
      (a.rev < b.rev ∨ (a.rev = b.rev ∧ a.h < b.h)) := by
  rw [bytesLt_beHeight, ← lt_iff_hk, Height.lt_iff]
  simp only [UInt64.lt_iff_toNat_lt, ← UInt64.toNat_inj]

/-- the iteration key determines the height (`GetHeightFromIterationKey ∘ IterationKey = id`) and
    distinct heights have distinct keys -/
theorem iteration_key_injective (a b : Height) :
    heightFromKey (beHeight a) = a ∧ (beHeight a = beHeight b ↔ a = b) :=
  ⟨heightFromKey_beHeight a, beHeight_inj, congrArg beHeight⟩

/-- the index really is in KV-store (bytewise) order -/
theorem index_sorted_bytewise (s : Store) (inv : MetaInv s) :
    s.iter.Pairwise (fun p q => bytesLt p.1 q.1 = true) :=
  inv.asc.imp_of_mem fun hp hq lt => by rwa [inv.keyed _ hp, inv.keyed _ hq, bytesLt_beHeight]

/-- **Ascending iteration visits exactly the stored heights, in strictly increasing height order** -/
theorem iteration_ascending (s : Store) (inv : MetaInv s) :
    s.iterAsc.Pairwise (fun a b => hk a < hk b) ∧ ∀ h, h ∈ s.iterAsc ↔ s.has h :=
  ⟨iterAsc_sorted s inv, mem_iterAsc s inv⟩

/-- **`GetNextConsensusState` returns the true next neighbour**: the consensus state of the least stored
    height strictly above `x` (whether or not `x` itself is stored), and nothing iff there is none -/
theorem next_correct (s : Store) (inv : MetaInv s) (x : Height) :
    (∀ c, s.getNext x = some c ↔ ∃ h, IsNext s x h ∧ s.getCons h = some c) ∧
    (s.getNext x = none ↔ ∀ h, s.has h → ¬ hk x < hk h) :=
  getNext_iff s inv x

/-- **`GetPreviousConsensusState` returns the true previous neighbour** -/
theorem prev_correct (s : Store) (inv : MetaInv s) (x : Height) :
    (∀ c, s.getPrev x = some c ↔ ∃ h, IsPrev s x h ∧ s.getCons h = some c) ∧
    (s.getPrev x = none ↔ ∀ h, s.has h → ¬ hk h < hk x) :=
  getPrev_iff s inv x

/-- **Pruning during updates removes only the oldest state, only when it has expired, with all its
    metadata** (and never panics on a consistent store): either nothing changes (no stored state, or the
    oldest has not expired), or exactly the least stored height `h` — expired — loses its consensus
    state, processed time, processed height and iteration entry, and every other height keeps all four. -/
theorem prune_oldest_only (s : Store) (inv : MetaInv s) (tp now : Int) :
    (s.pruneOldest tp now = some s ∧ ∀ h c, IsOldest s h → s.getCons h = some c → ¬ (c.ts + tp ≤ now)) ∨
    (∃ h c s', s.pruneOldest tp now = some s' ∧ IsOldest s h ∧ s.getCons h = some c ∧ c.ts + tp ≤ now ∧
      s'.client = s.client ∧
      s'.getCons h = none ∧ s'.ptime.get h = none ∧ s'.pheight.get h = none ∧ Idx.get s'.iter (beHeight h) = none ∧
      (∀ h', h' ≠ h → s'.getCons h' = s.getCons h' ∧ s'.ptime.get h' = s.ptime.get h' ∧
        s'.pheight.get h' = s.pheight.get h' ∧
        ((Idx.get s'.iter (beHeight h')).isSome = (Idx.get s.iter (beHeight h')).isSome)) ∧
      MetaInv s') := by
  rcases pruneOldest_spec s inv tp now with ⟨h, c, ho, hc, he, hp⟩ | ⟨hp, hne⟩
  · right
    have inv' := metaInv_delete s inv h
    refine ⟨h, c, _, hp, ho, hc, (isExpired_iff _ _ _).mp he, rfl, FMap.get_del_self _ _, FMap.get_del_self _ _,
      FMap.get_del_self _ _, ?_, fun h' hne' => ?_, inv'⟩
    · exact Option.not_isSome_iff_eq_none.mp fun g =>
        ((has_delete s h h).mp ((metaInv_meaning _ inv' h).2.2.1.mp g)).1 rfl
    · have ne := Ne.symm hne'
      refine ⟨FMap.get_del_ne _ _ _ ne, FMap.get_del_ne _ _ _ ne, FMap.get_del_ne _ _ _ ne, ?_⟩
      rw [Bool.eq_iff_iff, (metaInv_meaning _ inv' h').2.2.1, (metaInv_meaning s inv h').2.2.1, has_delete]
      exact and_iff_right ne
  · left
    exact ⟨hp, fun h c ho hc => by rw [← isExpired_iff, hne h c ho hc]; simp⟩

/-- the one spot where the Go code names the height twice: `VerifyUpgradeAndUpdateState` writes the
    consensus state at `newClientState.LatestHeight` and the metadata at `tmUpgradeClient.LatestHeight`;
    in the model these are two different expressions, and they are equal -/
theorem upgrade_heights_agree (cs : ClientState) (u : UpgradeReq) :
    (upgradedClient cs u).latest = u.newClient.latest := rfl

/-! ### non-vacuity: heights whose big-endian keys contain 0x2F and 0xFF bytes -/

example : beHeight ⟨47, 255⟩ = [0,0,0,0,0,0,0,0x2F, 0,0,0,0,0,0,0,0xFF] := by decide +kernel
example : bytesLt (beHeight ⟨47, 255⟩) (beHeight ⟨47, 256⟩) = true ∧
          bytesLt (beHeight ⟨47, 0xFFFFFFFFFFFFFFFF⟩) (beHeight ⟨48, 0⟩) = true ∧
          bytesLt (beHeight ⟨0x2F2F, 0x2F⟩) (beHeight ⟨0x2F2F, 0x2E⟩) = false := by decide +kernel

def exStore : Store :=
  ((((Store.empty.setCons ⟨1, 0x2F00⟩ ⟨30, "r", "n"⟩).setMeta ⟨1, 0x2F00⟩ ⟨1, 1⟩ 5).setCons ⟨1, 0xFF⟩ ⟨20, "r", "n"⟩).setMeta ⟨1, 0xFF⟩ ⟨1, 1⟩ 5)

example : MetaInv exStore :=
  metaInv_insert _ (metaInv_insert _ metaInv_empty _ _ _ _) _ _ _ _
example : exStore.iterAsc = [⟨1, 0xFF⟩, ⟨1, 0x2F00⟩] ∧ (exStore.getNext ⟨1, 0x100⟩).map (·.ts) = some 30 ∧
          (exStore.getPrev ⟨1, 0x2F00⟩).map (·.ts) = some 20 ∧
          ((exStore.pruneOldest 10 100).map (·.iterAsc)) = some [⟨1, 0x2F00⟩] := by decide +kernel

end IbcVerif.C22
