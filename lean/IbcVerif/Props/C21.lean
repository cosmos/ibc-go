/-
  C21 — Tendermint client status is exact and gates every use.
  Property theorems only (model: IbcVerif/Model/Tm*.lean; lemmas: IbcVerif/Lemmas/Tm*.lean).

  Consumers of a client and where they check `Status == Active` (ibc-go v11, this tree):
    02-client keeper (modelled and proved here):
      UpdateClient (keeper/client.go:56, headers and misbehaviour), UpgradeClient (:100),
      RecoverClient (:129 subject must NOT be Active, :133 substitute must be Active),
      VerifyMembership (keeper/keeper.go:343), VerifyNonMembership (:357), CreateClient (:36, after Initialize).
    consumers that call `ClientKeeper.GetClientStatus` themselves (status is the function proved exact
    here; the handlers belong to the chain cluster, C12–C14/C08):
      03-connection ConnOpenInit (keeper/handshake.go:38); 04-channel ChanOpenInit (keeper/handshake.go:53),
      ChanCloseInit (:376), SendPacket v1 (keeper/packet.go:61); 04-channel/v2 sendPacket (v2/keeper/packet.go:68);
      core ante RedundantRelayDecorator for MsgUpdateClient (ante/ante.go:192); rate-limiting AddRateLimit
      (keeper/rate_limit.go:98); gRPC VerifyMembership query (02-client/keeper/grpc_query.go:414).
    every other handshake / packet step (ConnOpenTry/Ack/Confirm, ChanOpenTry/Ack/Confirm, ChanCloseConfirm,
    RecvPacket, Acknowledgement, Timeout, TimeoutOnClose, v2 recv/ack/timeout) reaches the client only
    through `VerifyMembership` / `VerifyNonMembership` of the 02-client keeper, i.e. through the gate proved here.
-/
import IbcVerif.Lemmas.TmGate
namespace IbcVerif.C21
open IbcVerif IbcVerif.Tm

/-- **Status is exact**: Frozen if the frozen height is non-zero; otherwise Expired if the consensus
    state at the latest height is missing or `timestamp + trustingPeriod ≤ now` (inclusive boundary);
    otherwise Active. A client without client state is Unknown (never Active). -/
theorem status_exact (s : Store) (now : Int) :
    (s.client = none → s.status now = .unknown) ∧
    (∀ cs, s.client = some cs → s.status now =
      if hk cs.frozen ≠ 0 then Status.frozen
      else match s.getCons cs.latest with
        | none => Status.expired
        | some c => if c.ts + cs.trustingPeriod ≤ now then Status.expired else Status.active) :=
  ⟨fun h => (status_unknown_iff s now).mpr h, fun cs hc => status_spec s cs hc now⟩

/-- the boundary is inclusive: expired exactly at `ts + trustingPeriod`, still active one nanosecond before -/
theorem expiry_boundary (s : Store) (cs : ClientState) (c : ConsState) (hc : s.client = some cs)
    (hf : hk cs.frozen = 0) (hg : s.getCons cs.latest = some c) :
    s.status (c.ts + cs.trustingPeriod) = .expired ∧ s.status (c.ts + cs.trustingPeriod - 1) = .active ∧
    ∀ now, s.status now = .active ↔ now < c.ts + cs.trustingPeriod := by
  refine ⟨?_, ?_, ?_⟩
  · rw [status_spec s cs hc]; simp [hf, hg]
  · rw [status_spec s cs hc]; simp [hf, hg]; omega
  · intro now
    rw [status_spec s cs hc]
    by_cases e : c.ts + cs.trustingPeriod ≤ now
    · simp [hf, hg, e]
    · simp [hf, hg, e]; omega

/-- Frozen has precedence and does not depend on time -/
theorem frozen_precedence (s : Store) (cs : ClientState) (hc : s.client = some cs) (hf : hk cs.frozen ≠ 0) (now : Int) :
    s.status now = .frozen := by
  rw [status_spec s cs hc]; simp [hf]

/-- **The latest height never decreases**, over all histories of all operations (no side condition) -/
theorem latest_height_monotone (w : World) (hw : WInv w) (ops : List Op) (cid : Nat) :
    hk (w.client cid).latestHeight ≤ hk ((run w ops).client cid).latestHeight :=
  run_latest cid ops w hw

/-- **Updates are gated**: a header submitted to a client that is not Active is rejected with
    `ErrClientNotActive` and nothing is written -/
theorem gated_update (s : Store) (now : Int) (self : Height) (hdr : Header) (valid : Bool) (h : s.status now ≠ .active) :
    updateStore s now self hdr valid = (s, "err:client-not-active") :=
  if_pos h

/-- misbehaviour submissions are gated likewise (after the stateless `ValidateBasic`) -/
theorem gated_misbehaviour (s : Store) (now : Int) (m : Misbehaviour) (v1 v2 : Bool) (h : s.status now ≠ .active) :
    misbehaviourStore s now m v1 v2 = (s, "err:client-not-active") ∨ misbehaviourStore s now m v1 v2 = (s, "err:basic") := by
  unfold misbehaviourStore
  cases m.validateBasic
  · exact .inr rfl
  · exact .inl (if_pos h)

theorem gated_upgrade (s : Store) (now : Int) (self : Height) (u : UpgradeReq) (h : s.status now ≠ .active) :
    upgradeStore s now self u = (s, "err:client-not-active") :=
  if_pos h

/-- **Proof verification is gated** (membership and non-membership; hence every receive, acknowledgement,
    timeout and handshake verification step) -/
theorem gated_verify (s : Store) (now : Int) (self : Height) (r : MembershipReq) (h : s.status now ≠ .active) :
    verifyMembershipStore s now self r = "err:client-not-active" :=
  if_pos h

/-- proof verification never writes -/
theorem verify_read_only (w : World) (cid : Nat) (r : MembershipReq) :
    (step w (.verifyMembership cid r)).1 = w ∧ (step w (.verifyNonMembership cid r)).1 = w := ⟨rfl, rfl⟩

/-- world-level form: any consumer operation aimed at a client that is not Active fails and leaves
    every client store as it was -/
theorem gated_world (w : World) (cid : Nat) (op : Op) (h : (w.client cid).status w.now ≠ .active)
    (hop : (∃ hdr v, op = .update cid hdr v) ∨ (∃ m v1 v2, op = .misbehaviour cid m v1 v2) ∨ (∃ u, op = .upgrade cid u) ∨
           (∃ r, op = .verifyMembership cid r) ∨ (∃ r, op = .verifyNonMembership cid r)) :
    ((step w op).2 = "err:client-not-active" ∨ (step w op).2 = "err:basic") ∧
    ∀ cid', (step w op).1.client cid' = w.client cid' := by
  have same : ∀ r : Store × String, r.1 = w.client cid → ∀ cid', (w.onClient cid r).1.client cid' = w.client cid' :=
    fun r e cid' => by
      rw [World.onClient, e]
      exact client_put_cases (P := (· = w.client cid')) w cid _ cid' rfl fun h => by rw [h]
  rcases hop with ⟨hdr, v, rfl⟩ | ⟨m, v1, v2, rfl⟩ | ⟨u, rfl⟩ | ⟨r, rfl⟩ | ⟨r, rfl⟩
  · have e := gated_update (w.client cid) w.now w.self hdr v h
    exact ⟨.inl (congrArg Prod.snd e), same _ (congrArg Prod.fst e)⟩
  · rcases gated_misbehaviour (w.client cid) w.now m v1 v2 h with e | e
    · exact ⟨.inl (congrArg Prod.snd e), same _ (congrArg Prod.fst e)⟩
    · exact ⟨.inr (congrArg Prod.snd e), same _ (congrArg Prod.fst e)⟩
  · have e := gated_upgrade (w.client cid) w.now w.self u h
    exact ⟨.inl (congrArg Prod.snd e), same _ (congrArg Prod.fst e)⟩
  · exact ⟨.inl (gated_verify _ _ _ r h), fun _ => rfl⟩
  · exact ⟨.inl (gated_verify _ _ _ r h), fun _ => rfl⟩

/-- recovery is gated the other way round: an Active subject cannot be recovered, and the substitute
    must be Active -/
theorem recover_gates (sj sb : Store) (now : Int) :
    (sj.status now = .active → recoverStore sj sb now = (sj, "err:invalid-recovery-client")) ∧
    (sj.status now ≠ .active → sb.status now ≠ .active → recoverStore sj sb now = (sj, "err:client-not-active")) :=
  ⟨fun h => if_pos h, fun h1 h2 => (if_neg h1).trans (if_pos h2)⟩

/-- the only way out of Frozen is a successful recovery: every other operation keeps a frozen client frozen -/
theorem frozen_persists (w : World) (hw : WInv w) (op : Op) (cid : Nat)
    (hf : (w.client cid).status w.now = .frozen) (hop : ∀ b, op ≠ .recover cid b) (hcr : ∀ cs c, op ≠ .create cs c) :
    ∀ now', ((step w op).1.client cid).status now' = .frozen := by
  intro now'
  have hna : (w.client cid).status w.now ≠ .active := by rw [hf]; decide
  -- being Frozen is a matter of the client state alone
  have hfz := (status_frozen_iff _ w.now).mp hf
  refine (status_frozen_iff _ now').mpr (step_client_cases (P := fun s' => ∃ cs, s'.client = some cs ∧ hk cs.frozen ≠ 0)
    w op cid hfz ?_ ?_ ?_ ?_ ?_ ?_)
  · exact fun cs c e _ => absurd e (hcr cs c)
  · intro _ _ _; rw [gated_update _ _ _ _ _ hna]; exact hfz
  · intro m v1 v2 _
    rcases gated_misbehaviour _ w.now m v1 v2 hna with e' | e' <;> rw [e'] <;> exact hfz
  · intro _ _; rw [gated_upgrade _ _ _ _ hna]; exact hfz
  · exact fun b e => absurd e (hop b)
  · intro _; rw [pruneAllStore_client _ (hw.stores cid)]; exact hfz

def exNv : String := String.ofList (List.replicate 64 'a')
def exRoot : String := String.ofList (List.replicate 64 'c')
def exCs : ClientState :=
  { chainId := "simchain-1", tlNum := 1, tlDen := 3, trustingPeriod := 1000, unbondingPeriod := 1500,
    maxClockDrift := 10, frozen := ⟨0, 0⟩, latest := ⟨1, 5⟩, proofSpecs := some "sdk", upgradePath := ["upgrade"],
    allowExpiry := false, allowMisb := false }
def exS : Store := initClient exCs ⟨5000, exRoot, exNv⟩ 5001 ⟨1, 1⟩

example : exS.status 5999 = .active ∧ exS.status 6000 = .expired ∧ exS.status 6001 = .expired ∧
    (freeze exCs exS).status 5999 = .frozen ∧ (freeze exCs exS).status 7000 = .frozen := by decide +kernel

end IbcVerif.C21
