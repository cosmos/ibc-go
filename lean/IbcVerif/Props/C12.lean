/-
  C12 — Channel handshake state machine (single-chain part; the two-chain agreement statement needs
  the honest-light-client world model and is not covered here).

  The handlers are modules/core/04-channel/keeper/handshake.go behind the msg server
  (write-then-callback order for ACK / CONFIRM: a callback error reverts the transaction).
  Proof verdicts are inputs: the theorems say what a handler does for every verdict.
-/
import IbcVerif.Lemmas.ChainInv3
namespace IbcVerif.C12
open IbcVerif IbcVerif.Chain

/-- one step, from any state reachable by a history, changes an existing channel end only along
    INIT→OPEN, TRYOPEN→OPEN, or (not CLOSED)→CLOSED; ordering, counterparty port and connection hops
    never change; version and counterparty channel id change only in the INIT→OPEN step (ACK). -/
theorem chan_state_transitions (ops : List Op) (op : Op) (port chan : Id) (ch : Channel)
    (hc : (run init ops).chan.get (port, chan) = some ch) :
    ∃ ch', (step (run init ops) op).1.chan.get (port, chan) = some ch' ∧
      ch'.ordering = ch.ordering ∧ ch'.cpPort = ch.cpPort ∧ ch'.hops = ch.hops ∧
      ChanTrans ch.state ch'.state ∧
      ((ch'.version ≠ ch.version ∨ ch'.cpChan ≠ ch.cpChan) → ch.state = .init ∧ ch'.state = .opened) :=
  ((tr_step (run init ops) op).chanOld port chan ch hc).resolve_left (chan_fresh (inv_run_init ops) hc)

/-- `ChanTrans` is exactly the allowed relation: in particular CLOSED is terminal. -/
theorem closed_is_terminal (b : ChanState) (h : ChanTrans .closed b) : b = .closed := by
  rcases h with h | ⟨h, _⟩ | ⟨h, _⟩ | ⟨_, h⟩
  · exact h.symm
  · cases h
  · cases h
  · exact h

/-- an OPEN end can only stay OPEN or become CLOSED. -/
theorem open_only_closes (b : ChanState) (h : ChanTrans .opened b) : b = .opened ∨ b = .closed := by
  rcases h with h | ⟨h, _⟩ | ⟨h, _⟩ | ⟨_, h⟩
  · exact .inl h.symm
  · cases h
  · cases h
  · exact .inr h

/-- a channel end that did not exist before a step is created in INIT or TRYOPEN, under the freshly
    generated identifier, with all three sequence counters at 1. -/
theorem new_channel_starts_init_or_tryopen (s : ChainState) (op : Op) (port chan : Id) (ch' : Channel)
    (h0 : s.chan.get (port, chan) = none) (h1 : (step s op).1.chan.get (port, chan) = some ch') :
    chan = fmtChan s.nextChanSeq ∧ (ch'.state = .init ∨ ch'.state = .tryopen) ∧
    (step s op).1.nextRecv.get (port, chan) = some 1 ∧ (step s op).1.nextAck.get (port, chan) = some 1 ∧
    (step s op).1.nextSend.get chan = some 1 := by
  obtain ⟨a, _, r⟩ := (tr_step s op).chanNew port chan ch' h0 h1
  exact ⟨a, r⟩

/-- light-client verification succeeded means: routable client, Active, and a positive verdict -/
theorem verify_ok_iff (s : ChainState) (env : Env) (cid : Id) (v : Bool) :
    verify s env cid v = .ok () ↔ route s cid = .ok () ∧ env.lc.statusOf cid = .active ∧ v = true :=
  Chain.verify_ok_iff s env cid v

/-- an end becomes OPEN through ChanOpenAck only from INIT, on an OPEN connection, and only if the
    proof of the counterparty's TRYOPEN end verified (verdict `env.lc.v1`) on an Active client. -/
theorem open_ack_requires_proof (s s' : ChainState) (env : Env) (port chan cpChan : Id) (cpVersion : String) (app : AppV1)
    (r : String) (h : step s ⟨env, .chanOpenAck port chan cpChan cpVersion app⟩ = (s', .ok r)) :
    ∃ ch conn, s.chan.get (port, chan) = some ch ∧ ch.state = .init ∧ getConn s ch = .ok conn ∧
      conn.2.state = .opened ∧ verify s env conn.2.client env.lc.v1 = .ok () ∧ env.lc.v1 = true ∧
      ∃ ch', s'.chan.get (port, chan) = some ch' ∧ ch'.state = .opened ∧ ch'.ordering = ch.ordering ∧
        ch'.cpChan = cpChan ∧ ch'.version = cpVersion := by
  obtain ⟨ch, hop, conn, C, A, B, hch, hst, hg, hco, hv, _, rfl⟩ := (chanOpenAck_cases h).ok rfl
  exact ⟨ch, (hop, conn), hch, hst, hg, hco, hv, verify_ok_v hv, _, FMap.get_set_self _ _ _, rfl, rfl, rfl, rfl⟩

/-- the same for ChanOpenConfirm (from TRYOPEN, proof of the counterparty's OPEN end). -/
theorem open_confirm_requires_proof (s s' : ChainState) (env : Env) (port chan : Id) (app : AppV1)
    (r : String) (h : step s ⟨env, .chanOpenConfirm port chan app⟩ = (s', .ok r)) :
    ∃ ch conn, s.chan.get (port, chan) = some ch ∧ ch.state = .tryopen ∧ getConn s ch = .ok conn ∧
      conn.2.state = .opened ∧ verify s env conn.2.client env.lc.v1 = .ok () ∧ env.lc.v1 = true := by
  obtain ⟨ch, hop, conn, C, A, B, hch, hst, hg, hco, hv, _⟩ := (chanOpenConfirm_cases h).ok rfl
  exact ⟨ch, (hop, conn), hch, hst, hg, hco, hv, verify_ok_v hv⟩

/-- ChanOpenTry needs an OPEN connection and the proof of the counterparty's INIT end. -/
theorem open_try_requires_proof (s s' : ChainState) (env : Env) (port : Id) (o : Order) (hops : List Id) (cpPort cpChan : Id)
    (cpVersion : String) (app : AppV1) (r : String)
    (h : step s ⟨env, .chanOpenTry port o hops cpPort cpChan cpVersion app⟩ = (s', .ok r)) :
    ∃ hop conn, hops = [hop] ∧ s.conn.get hop = some conn ∧ conn.state = .opened ∧
      verify s env conn.client env.lc.v1 = .ok () ∧ env.lc.v1 = true := by
  obtain ⟨hop, conn, hh, hc, hst, _, hv, _⟩ := (chanOpenTry_cases h).ok rfl
  exact ⟨hop, conn, hh, hc, hst, hv, verify_ok_v hv⟩

/-- close-confirm requires proof that the counterparty end is CLOSED (verdict `env.lc.v1`). -/
theorem closeConfirm_requires_proof (s s' : ChainState) (env : Env) (port chan : Id) (app : AppV1) (r : String)
    (h : step s ⟨env, .chanCloseConfirm port chan app⟩ = (s', .ok r)) : env.lc.v1 = true := by
  obtain ⟨_, _, _, _, _, _, _, hv, _⟩ := (chanCloseConfirm_cases h).ok rfl
  exact verify_ok_v hv

example : Inv Chain.init := Inv.init

end IbcVerif.C12
