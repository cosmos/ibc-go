/-
  C15 — Generated identifiers are unique and parse back to their parts (stateless part).
  The history part (counters never decrease, identifiers burnt by failed transactions are never
  stored) lives with the chain model; here: format/parse round-trips, validity of every
  generated identifier for every 64-bit sequence, injectivity of formatting, and rejection of
  sequences that do not fit 64 bits — for ALL client-type strings and ALL sequences.
-/
import IbcVerif.Lemmas.Ident
namespace IbcVerif.C15
open IbcVerif IbcVerif.Ident

/-- formatting then parsing a client identifier returns the same client type and sequence -/
theorem format_parse_client (t : List Char) (n : Nat) (ht : typeShape t = true) (hn : n < 2^64) :
    parseClientIdentifier (formatClientIdentifier t n) = some (t, n) := by
  rw [parse_format_client t n hn, if_pos ht]

/-- a client type accepted by `ValidateClientType` has the identifier shape … -/
theorem validate_type_shape (t : List Char) (h : validateClientType t = true) : typeShape t = true := by
  unfold validateClientType at h
  rw [parse_format_client t 0 (by decide)] at h
  split at h
  · assumption
  · cases h

/-- … and every identifier generated from it, for EVERY 64-bit sequence, passes the chain's client
    identifier validation and parses back to (type, sequence). -/
theorem registrable_ids_validate (t : List Char) (n : Nat) (h : validateClientType t = true) (hn : n < 2^64) :
    validId (formatClientIdentifier t n) 4 64 = true ∧
    parseClientIdentifier (formatClientIdentifier t n) = some (t, n) := by
  refine ⟨?_, format_parse_client t n (validate_type_shape t h) hn⟩
  simp only [validateClientType, Bool.and_eq_true] at h
  have e : ∀ m, formatClientIdentifier t m = (t ++ ['-']) ++ dec m := fun m => (List.append_cons t '-' (dec m))
  simp only [e] at h ⊢
  exact validId_append_dec _ 4 64 n hn h.1.2 h.2

/-- parsing never yields a sequence that does not fit in 64 bits -/
theorem parse_client_seq_fits (s t : List Char) (n : Nat) (h : parseClientIdentifier s = some (t, n)) : n < 2^64 := by
  unfold parseClientIdentifier at h
  split at h
  · cases h; decide
  · split at h
    · split at h
      · obtain ⟨m, hp, e⟩ := Option.map_eq_some_iff.mp h
        cases e
        exact parseUint64_lt _ _ hp
      · cases h
    · cases h

/-- identifiers of distinct (type, sequence) pairs are distinct (for well-shaped types) -/
theorem format_client_injective (t t' : List Char) (n n' : Nat) (ht : typeShape t = true) (ht' : typeShape t' = true)
    (hn : n < 2^64) (hn' : n' < 2^64) (h : formatClientIdentifier t n = formatClientIdentifier t' n') : t = t' ∧ n = n' := by
  have e := format_parse_client t n ht hn
  rw [h, format_parse_client t' n' ht' hn'] at e
  cases e
  exact ⟨rfl, rfl⟩

/-- channel-N / connection-N: format then parse is the identity, for every 64-bit N -/
theorem format_parse_with_prefix (p : List Char) (n : Nat) (hn : n < 2^64) :
    parseWithPrefix p (formatWithPrefix p n) = some n := by
  unfold parseWithPrefix formatWithPrefix
  have h1 : p.isPrefixOf (p ++ dec n) = true := by simp
  rw [if_pos h1]
  simp [digits1to20_dec n hn, parseUint64_dec n hn]

theorem parse_with_prefix_fits (p s : List Char) (n : Nat) (h : parseWithPrefix p s = some n) : n < 2^64 := by
  unfold parseWithPrefix at h
  split at h
  · simp only at h
    split at h
    · exact parseUint64_lt _ _ h
    · cases h
  · cases h

/-- generated channel / connection identifiers satisfy the 8..64 / 10..64 length-and-alphabet rule
    for every 64-bit sequence -/
theorem generated_channel_connection_ids_valid (n : Nat) (hn : n < 2^64) :
    validId (formatWithPrefix channelPrefix n) 8 64 = true ∧ validId (formatWithPrefix connectionPrefix n) 10 64 = true :=
  ⟨validId_append_dec _ 8 64 n hn (by decide +kernel) (by decide +kernel),
    validId_append_dec _ 10 64 n hn (by decide +kernel) (by decide +kernel)⟩

/-- distinct sequences give distinct identifiers -/
theorem format_with_prefix_injective (p : List Char) (n n' : Nat) (h : formatWithPrefix p n = formatWithPrefix p n') : n = n' :=
  dec_injective (List.append_cancel_left h)

/-- the 20-digit boundary: 2^64−1 is accepted, 2^64 is rejected -/
example : parseWithPrefix channelPrefix "channel-18446744073709551615".toList = some 18446744073709551615 := by decide +kernel
example : parseWithPrefix channelPrefix "channel-18446744073709551616".toList = none := by decide +kernel
/-- non-vacuity: a real client type is accepted -/
example : validateClientType "07-tendermint".toList = true := by decide +kernel

end IbcVerif.C15
