/-
  C27 — Localhost verification is equivalent to reading the chain's own store; the localhost client
  cannot be created, updated, upgraded or recovered.
  Property theorems only; helper lemmas live in IbcVerif/Lemmas/Localhost.lean.
-/
import IbcVerif.Model.Localhost
import IbcVerif.Lemmas.Localhost
namespace IbcVerif.C27
open IbcVerif.Localhost
open IbcVerif.WasmStore (Bytes KV)

/-- `heightGT` is `Height.GT`: greater revision number, or equal revision number and greater height. -/
theorem heightGT_spec (a b : Ht) :
    heightGT a b = true ↔ a.1 > b.1 ∨ (a.1 = b.1 ∧ a.2 > b.2) := by
  simp [heightGT]

/-- **Membership ⇔ sentinel proof ∧ two-element path ∧ the store holds exactly that value at the key**
(`path[1]`; the first element, the store prefix, is ignored) ∧ the proof height is not above the chain's
own height (guard added by /repo fix eba1f77; `heightGT` = `Height.GT`). For every store, proof, path and value.
(`key ≠ []`: the SDK store panics on an empty key, which no store can hold anyway.) -/
theorem membership_iff (store : KV) (height self : Ht) (proof : Bytes) (path : Path) (value : Bytes) :
    verifyMembership store height self proof path value = .ok () ↔
      heightGT height self = false ∧ proof = sentinelProof ∧ ∃ pfx key, path = some [pfx, key] ∧ key ≠ [] ∧ store.get key = some value := by
  simp only [verifyMembership_eq, gated_ok_iff, holds_ok_iff]

/-- **Non-membership ⇔ sentinel proof ∧ two-element path ∧ the key is absent from the store.** -/
theorem nonmembership_iff (store : KV) (height self : Ht) (proof : Bytes) (path : Path) :
    verifyNonMembership store height self proof path = .ok () ↔
      heightGT height self = false ∧ proof = sentinelProof ∧ ∃ pfx key, path = some [pfx, key] ∧ key ≠ [] ∧ store.get key = none := by
  simp only [verifyNonMembership_eq, gated_ok_iff, absent_ok_iff]

/-- Membership and non-membership of the same key can never both verify (no state satisfies both). -/
theorem membership_excludes_nonmembership (store : KV) (ht sh ht' sh' : Ht) (p p' : Bytes)
    (pfx pfx' key value : Bytes)
    (h : verifyMembership store ht sh p (some [pfx, key]) value = .ok ()) :
    verifyNonMembership store ht' sh' p' (some [pfx', key]) ≠ .ok () := by
  obtain ⟨-, -, _, _, hk, -, hg⟩ := (membership_iff ..).mp h
  intro h'
  obtain ⟨-, -, _, _, hk', -, hg'⟩ := (nonmembership_iff ..).mp h'
  cases hk; cases hk'
  rw [hg] at hg'; cases hg'

/-- The same equivalences through the 02-client keeper (`Keeper.VerifyMembership` /
`Keeper.VerifyNonMembership` on a localhost client id): additionally the type must be allowed. -/
theorem keeper_verification_iff (s : State) (height self : Ht) (proof : Bytes) (path : Path)
    (value : Bytes) :
    ((step s (.kVerifyMembership height self proof path value)).2 = .ok ↔
      s.allowed = true ∧ heightGT height self = false ∧ proof = sentinelProof ∧
        ∃ pfx key, path = some [pfx, key] ∧ key ≠ [] ∧ s.store.get key = some value) ∧
    ((step s (.kVerifyNonMembership height self proof path)).2 = .ok ↔
      s.allowed = true ∧ heightGT height self = false ∧ proof = sentinelProof ∧
        ∃ pfx key, path = some [pfx, key] ∧ key ≠ [] ∧ s.store.get key = none) := by
  rw [← membership_iff, ← nonmembership_iff]
  cases ha : s.allowed <;> simp [step, route, ha, statusActive, resOf_eq_ok_iff]

/-- is this op an attempt to create / initialise / update / upgrade / recover the localhost client
(through the module or through the 02-client keeper)? -/
def isLifecycleOp : Op → Bool
  | .initClient | .verifyClientMessage | .recoverClient | .verifyUpgrade
  | .kCreate | .kUpdate | .kUpgrade | .kRecover => true
  | _ => false

/-- **The localhost client cannot be created, updated, upgraded or recovered**: in every state every
such operation returns an error (never `ok`), and `Keeper.UpdateClient` fails in `VerifyClientMessage`,
i.e. before `CheckForMisbehaviour` / `UpdateState` could run. -/
theorem lifecycle_ops_refused (s : State) (op : Op) (h : isLifecycleOp op = true) :
    ∃ e, (step s op).2 = .err e := by
  cases op with
  | initClient | verifyClientMessage | recoverClient | verifyUpgrade | kCreate => exact ⟨_, rfl⟩
  | kUpdate | kUpgrade | kRecover => simp only [step]; cases route s <;> exact ⟨_, rfl⟩
  | _ => cases h

/-- the precise error of each refused keeper operation when the type is allowed -/
theorem lifecycle_errors (s : State) (ha : s.allowed = true) :
    (step s .kCreate).2 = .err .invalidClientType ∧
    (step s .kUpdate).2 = .err .updateClientFailed ∧
    (step s .kUpgrade).2 = .err .invalidUpgradeClient ∧
    (step s .kRecover).2 = .err .invalidRecoveryClient := by
  simp [step, route, ha, statusActive, verifyClientMessage, verifyUpgradeAndUpdateState]

/-- No client operation (verification or lifecycle) changes the store or the parameters: only the
environment does. -/
theorem client_ops_pure (s : State) (op : Op) (h : op.isEnv = false) : (step s op).1 = s := by
  cases op with
  | envSet _ _ | envDelete _ | envSetAllowed _ => cases h
  | kVerifyMembership _ _ _ _ _ | kVerifyNonMembership _ _ _ _ | kUpdate | kUpgrade | kRecover =>
    simp only [step]; cases route s <;> rfl
  | _ => rfl

/-- **Over all histories**: the state after any history is the state after its environment writes
alone — the localhost client has no state of its own and nothing addressed to it ever takes effect. -/
theorem history_state (s : State) (ops : List Op) :
    (run s ops).1 = (run s (ops.filter Op.isEnv)).1 := by
  induction ops generalizing s with
  | nil => rfl
  | cons op ops ih =>
    cases h : op.isEnv with
    | true => simp only [List.filter, h, run]; exact ih _
    | false =>
      simp only [List.filter, h, run]
      rw [client_ops_pure s op h]; exact ih s

/-- **Over all histories**: after any history, a membership verification succeeds exactly when the
store *at that moment* holds the value, a non-membership verification exactly when the key is absent. -/
theorem history_verification (s : State) (ops : List Op) (height self : Ht) (proof : Bytes) (path : Path)
    (value : Bytes) :
    let s' := (run s ops).1
    ((step s' (.verifyMembership height self proof path value)).2 = .ok ↔
      heightGT height self = false ∧ proof = sentinelProof ∧ ∃ pfx key, path = some [pfx, key] ∧ key ≠ [] ∧ s'.store.get key = some value) ∧
    ((step s' (.verifyNonMembership height self proof path)).2 = .ok ↔
      heightGT height self = false ∧ proof = sentinelProof ∧ ∃ pfx key, path = some [pfx, key] ∧ key ≠ [] ∧ s'.store.get key = none) := by
  intro s'
  rw [← membership_iff, ← nonmembership_iff]
  exact ⟨resOf_eq_ok_iff _, resOf_eq_ok_iff _⟩

example :
    let s : State := ⟨[([107], [5])], true⟩
    run s [.verifyMembership (1, 9) (1, 9) [1] (some [[105], [107]]) [5],
           .verifyMembership (0, 99) (1, 9) [1] (some [[105], [107]]) [6],
           .verifyNonMembership (1, 9) (1, 9) [1] (some [[105], [107]]),
           .verifyNonMembership (1, 3) (1, 9) [1] (some [[105], [108]]),
           .verifyMembership (1, 9) (1, 9) [2] (some [[105], [107]]) [5], .kUpdate, .kCreate, .envDelete [107],
           .kVerifyNonMembership (1, 9) (1, 9) [1] (some [[105], [107]]),
           .verifyMembership (1, 10) (1, 9) [1] (some [[105], [107]]) [5],
           .verifyNonMembership (2, 0) (1, 9) [1] (some [[105], [108]])]
      = (⟨[], true⟩, [.ok, .err .failedMembership, .err .failedNonMembership, .ok, .err .invalidProof,
           .err .updateClientFailed, .err .invalidClientType, .ok, .ok, .err .invalidHeight, .err .invalidHeight]) := by
  decide +kernel

end IbcVerif.C27
