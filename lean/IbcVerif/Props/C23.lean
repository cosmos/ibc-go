/-
  C23 — Tendermint updates keep consensus timestamps increasing with height.
  Property theorems only (model: IbcVerif/Model/Tm*.lean; lemmas: IbcVerif/Lemmas/Tm*.lean).
  Header contents (height, time, hashes, trusted height) and the light-client verdict `valid` are
  universally quantified; `IsPrev`/`IsNext` are the true stored neighbours of a height.
-/
import IbcVerif.Lemmas.TmHist
namespace IbcVerif.C23
open IbcVerif IbcVerif.Tm

/-- what is known whenever `UpdateClient` stores a consensus state at a height that had none -/
theorem update_new_facts (s : Store) (hs : StoreInv s) (now : Int) (self : Height) (hdr : Header) (valid : Bool)
    (hn : ¬ s.has hdr.height) (hh : (updateStore s now self hdr valid).1.has hdr.height) :
    s.status now = .active ∧ verifyHeader s hdr valid = none ∧ checkHeaderMisbehaviour s hdr = false ∧
    (updateStore s now self hdr valid).1.getCons hdr.height = some hdr.cons ∧
    (∀ h c, h ≠ hdr.height → (updateStore s now self hdr valid).1.getCons h = some c → s.getCons h = some c) ∧
    (∀ h c, s.getCons h = some c → (updateStore s now self hdr valid).1.getCons h = some c ∨ IsOldest s h) := by
  rcases updateStore_cases s hs now self hdr valid with ⟨e, _⟩ | ⟨cs, hc, hact, hv, ⟨_, e⟩ | ⟨hchk, s1, _, pr, hcase⟩⟩
  · rw [e] at hh; exact absurd hh hn
  · rw [e] at hh; exact absurd hh hn
  · rcases hcase with ⟨hdup, e⟩ | ⟨hnew, e⟩
    · rw [e] at hh
      exact absurd (pruned_has pr hh) hn
    · rw [e]
      refine ⟨hact, hv, hchk, (getCons_insert ..).trans (if_pos rfl), fun h c ne e' => ?_, fun h c e' => ?_⟩
      · rw [getCons_insert, if_neg (Ne.symm ne)] at e'
        exact pr.sub h c e'
      · refine (pr.kept h c e').imp (fun k => ?_) fun k => k.2.1
        rw [getCons_insert, if_neg fun (eq : hdr.height = h) => hn (eq ▸ has_of_getCons e')]
        exact k

/-- **An update never stores a consensus state whose timestamp is not strictly between the timestamps
    of its stored neighbours** (neighbours taken in the store the header was checked against): for every
    store satisfying the invariant, every header (past height, gap, future height, any time) and either
    verdict. -/
theorem update_stores_between (s : Store) (hs : StoreInv s) (now : Int) (self : Height) (hdr : Header) (valid : Bool)
    (hn : ¬ s.has hdr.height) (hh : (updateStore s now self hdr valid).1.has hdr.height) :
    (updateStore s now self hdr valid).1.getCons hdr.height = some hdr.cons ∧
    (∀ p c, IsPrev s hdr.height p → s.getCons p = some c → c.ts < hdr.ts) ∧
    (∀ n c, IsNext s hdr.height n → s.getCons n = some c → hdr.ts < c.ts) := by
  have ⟨_, _, hchk, hst, _, _⟩ := update_new_facts s hs now self hdr valid hn hh
  exact ⟨hst, neighbours_ok s hs.metaInv hdr hchk (Option.not_isSome_iff_eq_none.mp hn)⟩

/-- the same with the neighbours taken in the store *after* the update (pruning of the oldest expired
    state happens between the check and the write; it never changes the neighbours of the new height) -/
theorem update_stores_between_post (s : Store) (hs : StoreInv s) (now : Int) (self : Height) (hdr : Header) (valid : Bool)
    (hn : ¬ s.has hdr.height) (hh : (updateStore s now self hdr valid).1.has hdr.height) :
    (∀ p c, IsPrev (updateStore s now self hdr valid).1 hdr.height p →
        (updateStore s now self hdr valid).1.getCons p = some c → c.ts < hdr.ts) ∧
    (∀ n c, IsNext (updateStore s now self hdr valid).1 hdr.height n →
        (updateStore s now self hdr valid).1.getCons n = some c → hdr.ts < c.ts) := by
  have ⟨_, hv, _, _, sub, kept⟩ := update_new_facts s hs now self hdr valid hn hh
  have ⟨_, bp, bn⟩ := update_stores_between s hs now self hdr valid hn hh
  constructor
  · intro p c hp hc
    have hcs := sub p c (fun e => by have := hp.2.1; rw [e] at this; omega) hc
    refine bp p c ⟨has_of_getCons hcs, hp.2.1, fun q hq lt => ?_⟩ hcs
    obtain ⟨cq, hcq⟩ := getCons_of_has hq
    exact (kept q cq hcq).elim (fun k => hp.2.2 q (has_of_getCons k) lt) fun k => k.2 p (has_of_getCons hcs)
  · intro n c hnx hc
    have hcs := sub n c (fun e => by have := hnx.2.1; rw [e] at this; omega) hc
    refine bn n c ⟨has_of_getCons hcs, hnx.2.1, fun q hq lt => ?_⟩ hcs
    obtain ⟨cq, hcq⟩ := getCons_of_has hq
    refine (kept q cq hcq).elim (fun k => hnx.2.2 q (has_of_getCons k) lt) fun k => ?_
    -- q would be the oldest stored height, yet it lies above the new height, which lies above its trusted height
    obtain ⟨c0, ht, _, _, _, hlt, _⟩ := (verifyHeader_none_iff s hdr valid).mp hv
    have := k.2 hdr.trusted (has_of_getCons ht)
    omega

/-- **An update that would break this freezes the client instead**: an Active client, a header that
    passes verification, for a height that is not stored, whose time is not after the previous
    neighbour's or not before the next neighbour's ⇒ the client is frozen and nothing else is written. -/
theorem ts_violation_freezes (s : Store) (hs : StoreInv s) (now : Int) (self : Height) (hdr : Header) (valid : Bool)
    (cs : ClientState) (hc : s.client = some cs) (hact : s.status now = .active)
    (hv : verifyHeader s hdr valid = none) (hnew : s.getCons hdr.height = none)
    (hbad : (∃ p c, IsPrev s hdr.height p ∧ s.getCons p = some c ∧ ¬ c.ts < hdr.ts) ∨
            (∃ n c, IsNext s hdr.height n ∧ s.getCons n = some c ∧ ¬ hdr.ts < c.ts)) :
    updateStore s now self hdr valid = ({ s with client := some { cs with frozen := frozenHeight } }, "frozen") :=
  updateStore_frozen hc hact hv ((checkHeaderMisbehaviour_iff s hs.metaInv hdr).mpr (Or.inr ⟨hnew, hbad⟩))

/-- **Over all update histories** (all orders of header submission, duplicates, conflicting headers,
    gap-filling and past heights with arbitrary times, misbehaviour, time advances, pruning), stored
    timestamps strictly increase with height in every client. -/
theorem ts_mono_updates (ops : List Op) (h : ∀ op ∈ ops, op.isUpdateLike = true) (cid : Nat) :
    TsMono ((run World.empty ops).client cid) :=
  (run_updateLike ops World.empty winv_empty wtsMono_empty h).1 cid

/-- inductive form: every update-like operation preserves monotonicity from any consistent world -/
theorem ts_mono_step (w : World) (hw : WInv w) (hm : WTsMono w) (op : Op) (hop : op.isUpdateLike = true) :
    WTsMono (step w op).1 := step_wtsMono w hw hm op hop

/-- Recovery and upgrade append one consensus state above the latest height. ibc-go does **not** compare
    its timestamp with the stored ones, so monotonicity survives them exactly under this hypothesis
    (outside C23's quantifier, which is about header submissions): -/
theorem ts_mono_recover_partial (sj sb : Store) (hs : StoreInv sj) (hb : MetaInv sb) (hm : TsMono sj) (now : Int)
    (hyp : ∀ scs c, sb.client = some scs → sb.getCons scs.latest = some c →
            ∀ h c0, sj.getCons h = some c0 → c0.ts < c.ts) :
    TsMono (recoverStore sj sb now).1 := by
  rcases recoverStore_cases sj sb hb now with ⟨e, _⟩ | ⟨cs, scs, c, ph, pt, hc, hsc, _, _, hlt, _, hg, _, _, e⟩
  · rw [e]; exact hm
  · rw [e]; exact tsMono_above hs hm hc _ hlt ph pt (hyp scs c hsc hg)

theorem ts_mono_upgrade_partial (s : Store) (hs : StoreInv s) (hm : TsMono s) (now : Int) (self : Height) (u : UpgradeReq)
    (hyp : ∀ h c0, s.getCons h = some c0 → c0.ts < u.newCons.ts) :
    TsMono (upgradeStore s now self u).1 := by
  rcases upgradeStore_cases s now self u with ⟨e, _⟩ | ⟨cs, hc, _, _, _, hlt, _, _, _, _, _, _, e⟩
  · rw [e]; exact hm
  · rw [e]; exact tsMono_above hs hm hc _ hlt self now.toNat hyp

/-- the statement "monotone after *every* operation" in full … -/
def ts_mono_all_ops_full : Prop :=
  ∀ (w : World), WInv w → WTsMono w → ∀ op, WTsMono (step w op).1

/-- … is false of the code: a recovery whose substitute's latest consensus state is older than a
    consensus state of the (frozen) subject is accepted. Witness: subject with (1-5, ts 3·10⁹) frozen,
    substitute at 1-9 with ts 2·10⁹. (Not a violation of C23 — no header update is involved — but the
    reason the history theorem is stated for update histories.) -/
theorem ts_mono_all_ops_full_false : ¬ ts_mono_all_ops_full := by
  intro h
  let nv := String.ofList (List.replicate 64 'a')
  let rt := String.ofList (List.replicate 64 'c')
  let cs (latest : Height) (frozen : Height) : ClientState :=
    { chainId := "simchain-1", tlNum := 1, tlDen := 3, trustingPeriod := 1000000000000, unbondingPeriod := 1500000000000,
      maxClockDrift := 10000000000, frozen := frozen, latest := latest, proofSpecs := some "sdk", upgradePath := ["upgrade"],
      allowExpiry := false, allowMisb := false }
  let w : World :=
    { clients := [(0, initClient (cs ⟨1, 5⟩ ⟨0, 1⟩) ⟨3000000000, rt, nv⟩ 3000000001 ⟨1, 1⟩),
                  (1, initClient (cs ⟨1, 9⟩ ⟨0, 0⟩) ⟨2000000000, rt, nv⟩ 3000000001 ⟨1, 1⟩)],
      nextSeq := 2, now := 3000000002, self := ⟨1, 2⟩ }
  have all : ∀ P : Store → Prop, (∀ cs c now self, P (initClient cs c now self)) → P Store.empty →
      ∀ cid, P (w.client cid) := by
    intro P a b cid
    by_cases e0 : 0 = cid
    · subst e0; exact a ..
    · by_cases e1 : 1 = cid
      · subst e1; exact a ..
      · have : w.client cid = Store.empty := by simp [World.client, w, FMap.get, e0, e1]
        rw [this]; exact b
  have hw : WInv w := ⟨all StoreInv storeInv_initClient storeInv_empty, fun n hn => by
    have : 2 ≤ n := hn
    simp [World.client, w, FMap.get, show ¬ 0 = n by omega, show ¬ 1 = n by omega]⟩
  have hm : WTsMono w := all TsMono tsMono_init fun _ _ _ _ e => nomatch e
  exact absurd (h w hw hm (.recover 0 1) 0 ⟨1, 5⟩ ⟨1, 9⟩ ⟨3000000000, rt, nv⟩ ⟨2000000000, rt, nv⟩
    (by decide +kernel) (by decide +kernel) (by decide)) (by decide)

/-! ### non-vacuity: a gap-filling header with a time beyond its next neighbour freezes the client -/

def exNv : String := String.ofList (List.replicate 64 'a')
def exCs : ClientState :=
  { chainId := "simchain-1", tlNum := 1, tlDen := 3, trustingPeriod := 1000000000000, unbondingPeriod := 1500000000000,
    maxClockDrift := 10000000000, frozen := ⟨0, 0⟩, latest := ⟨1, 5⟩, proofSpecs := some "sdk", upgradePath := ["upgrade"],
    allowExpiry := false, allowMisb := false }
def exHdr (h : UInt64) (ts : Int) : Header :=
  { height := ⟨1, h⟩, ts := ts, root := "r", nvh := exNv, trusted := ⟨1, 5⟩, tvals := some exNv, parseOK := true,
    blockHash := "bb", commitOK := true, blockIdOK := true, basicOK := true }
def exW : World := (createClient ⟨[], 0, 2000000000, ⟨1, 9⟩⟩ exCs ⟨1000000000, String.ofList (List.replicate 64 'c'), exNv⟩).1

example :
    ((run exW [.update 0 (exHdr 9 1000000900) true]).client 0).iterAsc = [⟨1, 5⟩, ⟨1, 9⟩] ∧
    (step (run exW [.update 0 (exHdr 9 1000000900) true]) (.update 0 (exHdr 7 1000000900) true)).2 = "frozen" ∧
    (step (run exW [.update 0 (exHdr 9 1000000900) true]) (.update 0 (exHdr 7 1000000500) true)).2 = "updated" := by
  rw [exW, createClient_first (by decide +kernel)
    (by exact validateBasic_hex List.length_replicate List.length_replicate (by decide)) (by decide)]
  decide +kernel

end IbcVerif.C23
