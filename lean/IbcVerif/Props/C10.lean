/-
  C10 — IBC v2 multi-payload receives are all-or-nothing.

  `recvLoop` is the `for` loop of RecvPacket (04-channel/v2/keeper/msg_server.go): it runs the
  payload callbacks in order on the shared cache context; `rl.isSuccess`, `rl.acks`, `rl.ran` are its
  result.  Every per-payload result (status, ack bytes, number of writes) is an input.
-/
import IbcVerif.Lemmas.ChainRecv
import IbcVerif.Lemmas.ChainInv
namespace IbcVerif.C10
open IbcVerif IbcVerif.Chain

/-- some payload failed: NONE of the applications' writes persist and the acknowledgement is exactly
    the single universal error acknowledgement (the receipt is still written). -/
theorem v2_any_failure (s s' : ChainState) (env : Env) (p : PacketV2) (apps : List AppV2) (r : String)
    (h : step s ⟨env, .recvV2 p apps⟩ = (s', .ok r)) :
    ∃ rl, recvLoop env.tag p.payloads.length 0 p.payloads apps ⟨s.app, [], false, true, 0⟩ = .ok rl ∧
      (rl.isSuccess = false →
        s'.app = s.app ∧ s'.ackV2.get (p.dst, p.seq) = some [sentinelAck] ∧
        s'.receiptV2.get (p.dst, p.seq) ≠ none) := by
  obtain ⟨rl, hl, happ, hrc, hcase⟩ := recvV2_shape h
  refine ⟨rl, hl, fun hf => ?_⟩
  have hacks := recvLoop_fail _ _ _ _ _ hl rfl hf
  refine ⟨by rw [happ, hf]; simp, ?_, by rw [hrc]; simp⟩
  rcases hcase with ⟨_, hack, _⟩ | hasync
  · rw [hack, hacks]; simp
  · -- an asynchronous result never comes with a failure
    rcases recvLoop_fail_async _ _ _ _ _ hl rfl hf hasync with h' | ⟨h', h''⟩
    · cases h'
    · omega

/-- every payload succeeded: all their writes persist (`rl.app` is the application store after all
    callbacks), every callback ran (`rl.ran = #payloads`), and — unless asynchronous — the
    acknowledgement holds exactly one app acknowledgement per payload, in payload order, none of
    which is the error sentinel. -/
theorem v2_all_success (s s' : ChainState) (env : Env) (p : PacketV2) (apps : List AppV2) (r : String)
    (h : step s ⟨env, .recvV2 p apps⟩ = (s', .ok r)) :
    ∃ rl, recvLoop env.tag p.payloads.length 0 p.payloads apps ⟨s.app, [], false, true, 0⟩ = .ok rl ∧
      (rl.isSuccess = true →
        s'.app = rl.app ∧ rl.acks.length = p.payloads.length ∧ (∀ a ∈ rl.acks, a ≠ sentinelAck) ∧
        (rl.isAsync = false → s'.ackV2.get (p.dst, p.seq) = some rl.acks)) := by
  obtain ⟨rl, hl, happ, _, hcase⟩ := recvV2_shape h
  refine ⟨rl, hl, fun hs => ?_⟩
  obtain ⟨hlen, hsent⟩ := recvLoop_success _ _ _ _ _ hl hs
  refine ⟨by rw [happ, hs]; simp, by simpa using hlen, fun a ha => (hsent a ha).resolve_left List.not_mem_nil,
    fun hna => ?_⟩
  rcases hcase with ⟨_, hack, _⟩ | hasync
  · rw [hack]; simp
  · rw [hna] at hasync; cases hasync

/-- an asynchronous acknowledgement is possible only for single-payload packets. -/
theorem v2_async_only_single (s s' : ChainState) (env : Env) (p : PacketV2) (apps : List AppV2) (r : String)
    (h : step s ⟨env, .recvV2 p apps⟩ = (s', .ok r)) (hasync : s'.asyncV2.get (p.dst, p.seq) ≠ s.asyncV2.get (p.dst, p.seq)) :
    p.payloads.length ≤ 1 := by
  obtain ⟨rl, hl, _, _, hcase⟩ := recvV2_shape h
  rcases hcase with ⟨_, _, hsame⟩ | ha
  · rw [hsame] at hasync; exact absurd rfl hasync
  · exact (recvLoop_async _ _ _ _ _ hl ha).resolve_left nofun

/-- `writeAcknowledgement` validates what it writes: a non-empty list of non-empty app acks, the
    sentinel only as a single element, and for a success ack one entry per payload. -/
theorem writeAck_validates (s s' : ChainState) (p : PacketV2) (acks : List Hex) (h : writeAckV2 s p acks = .ok s') :
    acks ≠ [] ∧ (∀ a ∈ acks, a ≠ "") ∧ (1 < acks.length → ∀ a ∈ acks, a ≠ sentinelAck) ∧
    (acks.head? ≠ some sentinelAck → acks.length = p.payloads.length) := by
  obtain ⟨hv, hlen, _⟩ := writeAckV2_ok h
  unfold ackValidV2 at hv
  simp only [Bool.and_eq_true, Bool.not_eq_true', List.isEmpty_eq_false_iff, List.all_eq_true, decide_eq_true_eq,
    Bool.or_eq_true, Nat.le_iff_lt_add_one] at hv
  obtain ⟨⟨h1, h2⟩, h3⟩ := hv
  refine ⟨h1, h2, ?_, ?_⟩
  · intro hl a ha
    rcases h3 with h' | h'
    · omega
    · exact h' a ha
  · intro hh
    apply hlen
    unfold ackSuccessV2; simpa using hh

example : Inv Chain.init := Inv.init

end IbcVerif.C10
