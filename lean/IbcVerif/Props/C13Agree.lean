/-
  C13 — Connection handshake safety, two-chain agreement half (see Props/C12Agree.lean for the world:
  two L3 chains, handshake proof verdicts derived from the counterparty's current store).
-/
import IbcVerif.Lemmas.ChainPair
namespace IbcVerif.C13A
open IbcVerif IbcVerif.Chain

/-- If, after any interleaving of ops on the two chains, a connection end on A and one on B are both
    OPEN and one names the other as its counterparty connection, then each names the other
    (connection ids and client ids crosswise), they have the same delay period, and both carry the
    same single version. -/
theorem both_open_conn_agree (ops : List (Bool × Op)) (ca cb : Id) (ea eb : ConnEnd)
    (ha : (prun World.init ops).a.conn.get ca = some ea)
    (hb : (prun World.init ops).b.conn.get cb = some eb)
    (hoa : ea.state = .opened) (hob : eb.state = .opened)
    (hname : ea.cpConn = cb ∨ eb.cpConn = ca) :
    ea.cpConn = cb ∧ eb.cpConn = ca ∧ ea.cpClient = eb.client ∧ eb.cpClient = ea.client ∧
    ea.delay = eb.delay ∧ ∃ v, ea.versions = [v] ∧ eb.versions = [v] := by
  have hp := pinv_prun_init ops
  rcases hname with h1 | h1
  · obtain ⟨f, v, hf, _, g1, g2, g3, g4, g5, g6⟩ := hp.ab.conn ca ea ha hoa
    rw [h1, hb] at hf; cases hf
    exact ⟨h1, g3, g1.symm, g2, g4.symm, v, g6, g5.trans g6⟩
  · obtain ⟨f, v, hf, _, g1, g2, g3, g4, g5, g6⟩ := hp.ba.conn cb eb hb hob
    rw [h1, ha] at hf; cases hf
    exact ⟨g3, h1, g2, g1.symm, g4, v, g5.trans g6, g6⟩

/-- A connection end becomes OPEN only by its own ConnOpenAck / ConnOpenConfirm, and at that moment
    the counterparty chain holds, under the counterparty connection id the end now records, an end in
    state TRYOPEN (ACK) resp. OPEN (CONFIRM) with crosswise-equal client ids, naming this end as its
    counterparty connection, same delay period, same version list, and both prefixes are the real
    store prefix.  Holds from every world state. -/
theorem conn_open_requires_counterparty_state (w : World) (side : Bool) (op : Op) (c : Id) (e' : ConnEnd)
    (he' : (chainOf (pstep w side op) side).conn.get c = some e') (ho' : e'.state = .opened)
    (hnew : ∀ e, (chainOf w side).conn.get c = some e → e.state ≠ .opened) :
    ConnOpenWitness (chainOf w (!side)) op.body c e' := by
  cases side with
  | false =>
    simp only [chainOf, Chain.pstep, Bool.false_eq_true, if_false, Bool.not_false, if_true] at *
    exact conn_open_step he' ho' hnew
  | true =>
    simp only [chainOf, Chain.pstep, if_true, Bool.not_true, Bool.false_eq_true, if_false] at *
    exact conn_open_step he' ho' hnew

/-- non-vacuity: in the genesis world the two localhost connection ends are OPEN and name each other -/
example : ∃ ea eb, World.init.a.conn.get "connection-localhost" = some ea ∧
    World.init.b.conn.get "connection-localhost" = some eb ∧ ea.state = .opened ∧ eb.state = .opened ∧
    ea.cpConn = "connection-localhost" := ⟨_, _, rfl, rfl, rfl, rfl, rfl⟩

end IbcVerif.C13A
