/-
  C19 — Packet delay periods are enforced with exact block-delay arithmetic.
-/
import IbcVerif.Model.Delay
import IbcVerif.Lemmas.Height
import IbcVerif.Lemmas.Except
namespace IbcVerif.C19
open IbcVerif IbcVerif.Delay

/-- the block delay is exactly ⌈d/e⌉ (0 when e = 0), for ALL inputs -/
theorem getBlockDelay_exact (d e : Nat) : getBlockDelay d e = blockDelaySpec d e := by
  unfold getBlockDelay blockDelaySpec
  split
  · rfl
  · rename_i he
    have h1 := Nat.div_add_mod d e
    have h2 := Nat.mod_lt d (Nat.pos_of_ne_zero he)
    rw [Nat.mul_comm] at h1
    symm
    -- a quotient `k` is determined by `k * e ≤ d + e - 1 < (k + 1) * e`
    split <;> apply Nat.div_eq_of_lt_le <;> simp only [Nat.add_mul, Nat.one_mul] <;> omega

/-- it is a true ceiling: the least `b` with `b * e ≥ d` -/
theorem getBlockDelay_is_ceiling (d e : Nat) (he : e ≠ 0) :
    d ≤ getBlockDelay d e * e ∧ ∀ b, d ≤ b * e → getBlockDelay d e ≤ b := by
  have hpos := Nat.pos_of_ne_zero he
  rw [getBlockDelay_exact, blockDelaySpec, if_neg he]
  constructor
  · have h1 := Nat.div_add_mod (d + e - 1) e
    have h2 := Nat.mod_lt (d + e - 1) hpos
    rw [Nat.mul_comm] at h1
    omega
  · intro b hb
    apply Nat.le_of_lt_succ
    rw [Nat.div_lt_iff_lt_mul hpos, Nat.succ_mul]
    omega

/-- the result fits in 64 bits for 64-bit inputs (the `++` in the code cannot wrap) -/
theorem getBlockDelay_fits (d e : Nat) (hd : d < 2^64) : getBlockDelay d e < 2^64 := by
  by_cases he : e = 0
  · simp [getBlockDelay, he]
  · -- `d` blocks are enough, so the least number is at most `d`
    exact Nat.lt_of_le_of_lt
      ((getBlockDelay_is_ceiling d e he).2 d (Nat.le_mul_of_pos_right d (Nat.pos_of_ne_zero he))) hd

/-- both delays are enforced inclusively: success ⇔ (no time delay ∨ now ≥ processedTime + delay)
    ∧ (no block delay ∨ selfHeight ≥ (rev, processedHeight + delay)); missing metadata is an error;
    a sum that does not fit in 64 bits is an error (never "immediately passed"). -/
theorem delay_passed_iff (now : Nat) (self : Height) (pt : Option Nat) (ph : Option Height) (dt db : Nat) :
    verifyDelayPeriodPassed now self pt ph dt db = .ok ↔
      (dt = 0 ∨ ∃ p, pt = some p ∧ p + dt < 2^64 ∧ p + dt ≤ now) ∧
      (db = 0 ∨ ∃ q, ph = some q ∧ q.h.toNat + db < 2^64 ∧
          Height.lt self ⟨q.rev, UInt64.ofNat (q.h.toNat + db)⟩ = false) := by
  have timeHalf : timeCheck now pt dt = .ok ↔ (dt = 0 ∨ ∃ p, pt = some p ∧ p + dt < 2^64 ∧ p + dt ≤ now) := by
    unfold timeCheck
    by_cases hdt : dt = 0
    · simp [hdt]
    · cases pt <;> simp [hdt, ite_eq_iff_of_ne]
  have blockHalf : blockCheck self ph db = .ok ↔
      (db = 0 ∨ ∃ q, ph = some q ∧ q.h.toNat + db < 2^64 ∧ Height.lt self ⟨q.rev, UInt64.ofNat (q.h.toNat + db)⟩ = false) := by
    unfold blockCheck
    by_cases hdb : db = 0
    · simp [hdb]
    · cases ph <;> simp [hdb, ite_eq_iff_of_ne]
  unfold verifyDelayPeriodPassed
  rw [← timeHalf, ← blockHalf]
  cases timeCheck now pt dt <;> simp

/-- packet-related proofs respect the delays of the consensus state they are verified against: an
    accepted proof at height `H` implies that both delays have passed since the client-store entries
    (processed time / processed height) of `H` — a younger or older consensus state's entries do not help -/
theorem packet_proof_respects_delay (base : Bool) (now : Nat) (self : Height) (pt : Option Nat) (ph : Option Height) (dt db : Nat)
    (h : delayedProofAccepted base now self pt ph dt db = true) :
    base = true ∧
    (dt = 0 ∨ ∃ p, pt = some p ∧ p + dt ≤ now) ∧
    (db = 0 ∨ ∃ q, ph = some q ∧ Height.lt self ⟨q.rev, UInt64.ofNat (q.h.toNat + db)⟩ = false) := by
  unfold delayedProofAccepted at h
  simp only [Bool.and_eq_true] at h
  obtain ⟨hb, hd⟩ := h
  have hok : verifyDelayPeriodPassed now self pt ph dt db = .ok := by
    cases hv : verifyDelayPeriodPassed now self pt ph dt db <;> simp [hv] at hd
    rfl
  obtain ⟨h1, h2⟩ := (delay_passed_iff now self pt ph dt db).mp hok
  exact ⟨hb, h1.imp_right (Exists.imp fun _ => And.imp_right And.right),
    h2.imp_right (Exists.imp fun _ => And.imp_right And.right)⟩

/-- non-vacuity / boundary: exactly at processed + delay the proof is accepted, one nanosecond or one
    block earlier it is not -/
example : verifyDelayPeriodPassed 1500 ⟨1, 20⟩ (some 1000) (some ⟨1, 15⟩) 500 5 = .ok := by decide
example : verifyDelayPeriodPassed 1499 ⟨1, 20⟩ (some 1000) (some ⟨1, 15⟩) 500 5 = .notPassed := by decide
example : verifyDelayPeriodPassed 1500 ⟨1, 19⟩ (some 1000) (some ⟨1, 15⟩) 500 5 = .notPassed := by decide
example : getBlockDelay 10000000000000001 10000000000000000 = 2 := by decide

end IbcVerif.C19
