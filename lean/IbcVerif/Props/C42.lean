/-
  C42 — Rate limiting charges exactly the denomination ICS-20 moves (denomination part).
  Property theorems only; helper lemmas live in IbcVerif/Lemmas/Denom.lean, DenomRl.lean.

  Model: `rlSendDenom` / `rlRecvDenom` = rate-limiting/keeper/packet.go
  `ParseDenomFromSendPacket` / `ParseDenomFromRecvPacket`; `ics20SendCoinDenom` /
  `ics20RecvCoinDenom` = the coin `SendTransfer` escrows or burns (`token.ToCoin()`) and the coin
  `OnRecvPacket` unescrows or mints (transfer/keeper/relay.go); the stateful ICS-20 model
  (`Model/Ics20.lean`) is *defined* through the same two functions.

  Before two fixes the property was false (three kernel-checked witnesses, each reproduced on the real
  code: DESIGN §6 F3 / F5 and a two-segment variant).  The fixes: 4b2f809, `Transfer` rejects base
  denominations that would be re-parsed as a trace; 143f4d3, `ParseDenomFromRecvPacket` takes ICS-20's
  decision on the parsed trace.  The theorems below are about the repaired code; the refutations of the
  pre-fix parser are kept as regression theorems, and the harness replays the witnesses (`xfer` engine,
  group `findings`) on every run.
-/
import IbcVerif.Model.Denom
import IbcVerif.Lemmas.Denom
import IbcVerif.Lemmas.DenomRl
namespace IbcVerif.C42
open IbcVerif IbcVerif.Xfer

/-- what `Transfer` lets through for a token `d` (msg_server.go: `TokenFromCoin`,
    `ValidateBaseNotHopLike`, `packetData.ValidateBasic`; relay.go: stored vouchers):
    the base is hop-free; the hops are '/'-free with channel identifiers in ibc-go's format (a native
    token has none; a voucher's hops were produced by `ExtractDenomFromPath` and by prefixing this
    chain's own channel identifier); and the path does not start with "ibc/" (a native coin
    denomination starting with "ibc/" is looked up as a voucher by `TokenFromCoin`; a voucher's path
    starts with this chain's transfer port, which is not literally named "ibc"). -/
def SendAccepted (d : Denom) : Prop :=
  hopFreeBase d.base = true ∧
  (∀ x ∈ d.trace, '/' ∉ x.port ∧ '/' ∉ x.chan ∧ isHopId x.chan = true) ∧
  ibcSlash.isPrefixOf d.path = false

/-- **Send side (full).**  For every token `Transfer` accepts, the rate limiter charges the coin
    denomination that ICS-20 escrows or burns. -/
theorem rl_send_denom_eq (hashHex : Str → Str) (d : Denom) (h : SendAccepted d) :
    rlSendDenom hashHex d.path = ics20SendCoinDenom hashHex d := by
  obtain ⟨hb, hh, hi⟩ := h
  have hs : PathStable d :=
    pathStable_of_hopFree d (fun x hx => ⟨(hh x hx).1, (hh x hx).2.1⟩) (fun x hx => (hh x hx).2.2) hb
  unfold rlSendDenom ics20SendCoinDenom
  rw [hi, hs]
  simp

/-- every native denomination that passes `Transfer`'s new guard is accepted in the above sense
    (so the send theorem covers all natives, with any number of '/'-segments of any other shape) -/
theorem native_accepted (base : Str) (hb : hopFreeBase base = true) (hi : ibcSlash.isPrefixOf base = false) :
    SendAccepted ⟨[], base⟩ :=
  ⟨hb, nofun, hi⟩

/-- **Receive side (full).**  For every packet denomination, on any channel pair, the rate limiter
    charges exactly the coin ICS-20 mints or unescrows: both parse the path with
    `ExtractDenomFromPath` and test the first hop of the parsed trace. -/
theorem rl_recv_denom_eq (hashHex : Str → Str) (sp sc dp dc s : Str) :
    rlRecvDenom hashHex sp sc dp dc s = ics20RecvCoinDenom hashHex sp sc dp dc s := rfl

/-! ### regression: the witnesses that refuted the property before the repairs -/

/-- the statement the pre-fix receive parser was supposed to satisfy -/
def rl_recv_full_prefix (hashHex : Str → Str) : Prop :=
  ∀ sp sc dp dc s : Str, validPortId sp = true → validChannelId sc = true →
    validPortId dp = true → isValidChannelID dc = true → (extract s).validate = none →
    rlRecvDenomPreFix hashHex sp sc dp dc s = ics20RecvCoinDenom hashHex sp sc dp dc s

/-- the same restricted to counterparties that use ibc-go's identifier format -/
def rl_recv_full_prefix_ibcgo (hashHex : Str → Str) : Prop :=
  ∀ sp sc dp dc s : Str, validPortId sp = true → isValidChannelID sc = true →
    validPortId dp = true → isValidChannelID dc = true → (extract s).validate = none →
    rlRecvDenomPreFix hashHex sp sc dp dc s = ics20RecvCoinDenom hashHex sp sc dp dc s

/-- **F5 (pre-fix).**  Counterparty channel identifier `mychannel00` (valid per ICS-24, not in
    ibc-go's `channel-N` format), packet denomination `transfer/mychannel00/uatom`: ICS-20 does not
    recognise a hop and mints `ibc/HASH(transfer/channel-0/transfer/mychannel00/uatom)`; the old raw
    string-prefix test fired and charged `uatom`. -/
theorem prefix_parser_refuted_foreign_id (hashHex : Str → Str) : ¬ rl_recv_full_prefix hashHex := by
  intro h
  have ⟨vp, vs, vd, vv, e1, e2, e3, q⟩ :
      let sp := "transfer".toList
      let sc := "mychannel00".toList
      let s := "transfer/mychannel00/uatom".toList
      validPortId sp = true ∧ validChannelId sc = true ∧ isValidChannelID "channel-0".toList = true ∧
      (extract s).validate = none ∧ ((Hop.mk sp sc).str ++ ['/']).isPrefixOf s = true ∧
      extract (s.drop ((Hop.mk sp sc).str ++ ['/']).length) = ⟨[], "uatom".toList⟩ ∧
      extract s = ⟨[], s⟩ ∧ ibcSlash.isPrefixOf "uatom".toList = false := by
    decide +kernel
  have := h _ _ _ _ _ vp vs vp vd vv
  unfold rlRecvDenomPreFix ics20RecvCoinDenom at this
  simp only [e1, e2, e3, if_true] at this
  -- charged: `uatom`; minted: a voucher, whose name starts with "ibc/"
  have this : "uatom".toList = ibcSlash ++ hashHex _ := this
  rw [this, isPrefixOf_append_self] at q
  cases q

/-- **Two-segment bases (pre-fix).**  Packet denomination `ab/channel-1` received on
    `transfer/channel-5`: ICS-20 mints `ibc/HASH(transfer/channel-5/ab/channel-1)`, the old parser
    re-parsed the prefixed string into two hops and an empty base and charged
    `ibc/HASH(transfer/channel-5/ab/channel-1/)`. -/
theorem prefix_parser_refuted_two_segment (hashHex : Str → Str)
    (hsep : hashHex "transfer/channel-5/ab/channel-1/".toList ≠ hashHex "transfer/channel-5/ab/channel-1".toList) :
    ¬ rl_recv_full_prefix_ibcgo hashHex := by
  intro h
  have ⟨vp, vs, vd, vv, e1, e2, e3, p1, p2⟩ :
      let tp := "transfer".toList
      let dc := "channel-5".toList
      let s := "ab/channel-1".toList
      validPortId tp = true ∧ isValidChannelID "channel-0".toList = true ∧ isValidChannelID dc = true ∧
      (extract s).validate = none ∧
      ((Hop.mk tp "channel-0".toList).str ++ ['/']).isPrefixOf s = false ∧
      extract ((Hop.mk tp dc).str ++ '/' :: s) = ⟨[⟨tp, dc⟩, ⟨"ab".toList, "channel-1".toList⟩], []⟩ ∧
      extract s = ⟨[], s⟩ ∧
      Denom.path ⟨[⟨tp, dc⟩, ⟨"ab".toList, "channel-1".toList⟩], []⟩ = "transfer/channel-5/ab/channel-1/".toList ∧
      Denom.path ⟨[⟨tp, dc⟩], s⟩ = "transfer/channel-5/ab/channel-1".toList := by
    decide +kernel
  have := h _ _ _ _ _ vp vs vp vd vv
  unfold rlRecvDenomPreFix ics20RecvCoinDenom at this
  simp only [e1, e2, e3, Bool.false_eq_true, if_false] at this
  simp only [Denom.ibcDenom, Denom.isNative, Denom.hasPrefix, List.isEmpty_cons, Bool.false_eq_true,
    if_false, List.append_cancel_left_eq, p1, p2] at this
  exact hsep this

/-- **F3 (pre-fix).**  Without the base guard the send-side statement is false: the native coin
    `transfer/channel-7/x` (a valid IBC coin denomination) is escrowed as itself and charged as
    `ibc/HASH(transfer/channel-7/x)` … -/
theorem send_without_guard_refuted (hashHex : Str → Str) :
    ¬ (∀ d : Denom, (d.trace = [] → validIBCDenom d.base = true ∧ ibcSlash.isPrefixOf d.base = false) →
        (extract d.path).validate = none → rlSendDenom hashHex d.path = ics20SendCoinDenom hashHex d) := by
  intro h
  have ⟨vb, vv, e, hi⟩ :
      let b := "transfer/channel-7/x".toList
      (validIBCDenom b = true ∧ ibcSlash.isPrefixOf b = false) ∧
      (extract (Denom.path ⟨[], b⟩)).validate = none ∧
      extract (Denom.path ⟨[], b⟩) = ⟨[⟨"transfer".toList, "channel-7".toList⟩], "x".toList⟩ ∧
      ibcSlash.isPrefixOf (Denom.path ⟨[], b⟩) = false := by
    decide +kernel
  have := h ⟨[], "transfer/channel-7/x".toList⟩ (fun _ => vb) vv
  unfold rlSendDenom ics20SendCoinDenom at this
  rw [e, hi] at this
  -- charged: a voucher, whose name starts with "ibc/"; escrowed: the coin itself
  have this : ibcSlash ++ hashHex _ = "transfer/channel-7/x".toList := this
  have q := vb.2
  rw [← this, isPrefixOf_append_self] at q
  cases q

/-- … and the guard of fix 4b2f809 rejects exactly that coin (and the two-segment one). -/
theorem witnesses_now_rejected :
    hopFreeBase "transfer/channel-7/x".toList = false ∧ hopFreeBase "ab/channel-1".toList = false ∧
    hopFreeBase "transfer/07-tendermint-0/ufoo".toList = false := by decide +kernel

/-- non-vacuity: ordinary natives with several '/'-segments and a two-hop voucher are accepted. -/
example :
    SendAccepted ⟨[], "gamm/pool/1".toList⟩ ∧ SendAccepted ⟨[], "factory/cosmos1abc/utok".toList⟩ ∧
    SendAccepted ⟨[⟨"transfer".toList, "channel-3".toList⟩, ⟨"transfer".toList, "07-tendermint-1".toList⟩], "uatom".toList⟩ := by
  unfold SendAccepted
  decide +kernel

end IbcVerif.C42
