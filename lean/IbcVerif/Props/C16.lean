/-
  C16 — Store key spaces never collide and clients stay in their namespace.
  Keys are the real byte layouts of 24-host (constants generated from /repo).  Identifiers range
  over *all* byte strings accepted by the 24-host alphabet (`IdOK`), sequences over all naturals
  (v1, decimal) resp. all uint64 (v2, big-endian).
-/
import IbcVerif.Lemmas.Keys
namespace IbcVerif.C16
open IbcVerif IbcVerif.Keys

/-- v1: distinct (kind, port, channel, sequence) tuples have distinct keys. -/
theorem v1_keys_injective (k k' : KindV1) (p c p' c' : Bytes) (n n' : Nat)
    (hp : IdOK p) (hc : IdOK c) (hp' : IdOK p') (hc' : IdOK c')
    (h : v1Key k p c n = v1Key k' p' c' n') :
    k = k' ∧ p = p' ∧ c = c' ∧ (k.hasSeq = true → n = n') := by
  have hs := joinOn_inj slash _ _ (v1Segs_ne_nil k p c n) (v1Segs_ne_nil k' p' c' n')
    (v1Segs_slash_free k p c n hp hc) (v1Segs_slash_free k' p' c' n' hp' hc') h
  simp only [v1Segs, channelPathSegs, List.cons_append, List.nil_append, List.cons.injEq, true_and] at hs
  obtain ⟨hw, hpp, hcc, hrest⟩ := hs
  have hk := word_inj k k' hw
  subst hk
  refine ⟨rfl, hpp, hcc, ?_⟩
  intro hseq
  simp only [hseq, if_true, List.cons.injEq, and_true, true_and] at hrest
  exact decBytes_inj hrest

/-- v2: distinct (kind, client, sequence) tuples have distinct keys. -/
theorem v2_keys_injective (k k' : KindV2) (id id' : Bytes) (n n' : Nat) (hn : n < 2^64) (hn' : n' < 2^64)
    (h : v2Key k id n = v2Key k' id' n') : k = k' ∧ id = id' ∧ n = n' := by
  obtain ⟨h1, hn⟩ := append_be64_inj hn hn' h
  obtain ⟨h2, h3⟩ := List.append_inj' h1 rfl
  exact ⟨kindByte_inj _ _ (List.cons.inj h3).1, h2, hn⟩

/-- a v1 key never equals a v2 key (both live in the same `ibc` store). -/
theorem v1_v2_disjoint (k : KindV1) (p c : Bytes) (n : Nat) (k' : KindV2) (id : Bytes) (m : Nat)
    (hp : IdOK p) (hc : IdOK c) : v1Key k p c n ≠ v2Key k' id m := by
  intro h
  have hm : k'.byte ∈ v2Key k' id m := by simp [v2Key, v2PrefixKey]
  rw [← h] at hm
  rcases v1Key_bytes k p c n hp hc _ hm with r | r
  · exact kindByte_ne_slash k' r
  · rw [kindByte_not_id] at r; cases r

/-- v2 prefix iteration is confined: a stored v2 key that starts with the iteration prefix of
    (kind, id) belongs to exactly that kind and that identifier ("channel-1" never matches
    "channel-10", and a receipt prefix never matches a commitment key). -/
theorem v2_prefix_confined (k k' : KindV2) (id id' : Bytes) (n : Nat) (hid : IdOK id) (hid' : IdOK id')
    (h : v2PrefixKey k id <+: v2Key k' id' n) : k = k' ∧ id = id' := by
  have nid : ∀ (k : KindV2) {s : Bytes}, IdOK s → k.byte ∉ s := fun k _ hs m =>
    absurd (hs.2 _ m) (by rw [kindByte_not_id]; decide)
  have h' : (id ++ k.byte :: []) <+: (id' ++ k'.byte :: be64 n) := by
    simpa only [v2Key, v2PrefixKey, List.append_assoc, List.singleton_append] using h
  obtain ⟨e, hk, _⟩ := prefix_mark _ _ _ _ _ _ (nid k' hid) (nid k hid') h'
  exact ⟨kindByte_inj _ _ hk, e⟩

/-- v1 prefix iteration (`PacketCommitmentPrefixKey(port, channel)`) is confined to that channel. -/
theorem v1_prefix_confined (k k' : KindV1) (p c p' c' : Bytes) (n : Nat) (hk' : k'.hasSeq = true)
    (hp : IdOK p) (hc : IdOK c) (hp' : IdOK p') (hc' : IdOK c')
    (h : v1PrefixKey k p c <+: v1Key k' p' c' n) : k = k' ∧ p = p' ∧ c = c' := by
  simp only [v1PrefixKey, v1Key, v1Segs, channelPathSegs, hk', if_true, List.cons_append, List.nil_append, joinOn] at h
  obtain ⟨h1, h⟩ := prefix_sep slash _ _ _ _ (word_slash_free k) (word_slash_free k') h
  obtain ⟨_, h⟩ := prefix_sep slash _ _ _ _ ports_slash_free ports_slash_free h
  obtain ⟨h2, h⟩ := prefix_sep slash _ _ _ _ hp.slash_free hp'.slash_free h
  obtain ⟨_, h⟩ := prefix_sep slash _ _ _ _ channels_slash_free channels_slash_free h
  obtain ⟨h3, _⟩ := prefix_sep slash _ _ _ _ hc.slash_free hc'.slash_free (by
    -- pad the shorter side with an explicit empty tail so that both have the `s ++ sep :: R` shape
    obtain ⟨t, ht⟩ := h
    exact ⟨t, by simpa [List.append_assoc] using ht⟩ : (c ++ slash :: Gen.keySequencePrefix) <+: (c' ++ slash :: (Gen.keySequencePrefix ++ slash :: decBytes n)))
  exact ⟨word_inj _ _ h1, h2, h3⟩

/-- client namespaces: the prefix store of client `id` (`clients/{id}/`) contains a full client key of
    client `id'` only if `id = id'`; so an operation that writes through the prefix store of its
    target can never touch another client's entries. -/
theorem client_store_confined (id id' path : Bytes) (hid : IdOK id) (hid' : IdOK id')
    (h : clientStorePrefix id <+: fullClientKey id' path) : id = id' := by
  simp only [clientStorePrefix, fullClientKey, List.append_assoc, List.singleton_append] at h
  obtain ⟨_, h⟩ := prefix_sep slash _ _ _ _ clients_slash_free clients_slash_free h
  have : (id ++ slash :: []) <+: (id' ++ slash :: path) := h
  exact (prefix_sep slash _ _ _ _ hid.slash_free hid'.slash_free this).1

/-- the shared next-sequence-send key is injective in the identifier. -/
theorem nextSeqSend_key_injective (id id' : Bytes) (h : nextSeqSendKey id = nextSeqSendKey id') : id = id' := by
  unfold nextSeqSendKey at h
  exact List.append_cancel_left h

/-- async-packet keys: injective for a *fixed-length* identifier pair, and … -/
theorem async_keys_injective_same_len (id id' : Bytes) (n n' : Nat) (hn : n < 2^64) (hn' : n' < 2^64)
    (h : asyncKey id n = asyncKey id' n') : id = id' ∧ n = n' := by
  obtain ⟨h1, hn⟩ := append_be64_inj hn hn' h
  exact ⟨List.append_cancel_right h1, hn⟩

/-- FULL statement for the async-packet prefix (kept visible): iteration over the async packets of
    one identifier returns only that identifier's entries, for all valid identifiers. -/
def async_prefix_confined_full : Prop :=
  ∀ (id id' : Bytes) (n : Nat), IdOK id → IdOK id' →
    ((asyncPrefixKey id <+: asyncKey id' n) ∨ (∃ k, asyncPrefixKey id <+: v2Key k id' n)) → id = id'

/-- It is FALSE for arbitrary valid identifiers: the suffix word `async_packet` lies inside the
    identifier alphabet, so the async prefix of `ab` is a prefix of every v2 key of the (valid)
    identifier `abasync_packet`.  (`getAllPacketStateForClient` then panics in
    `extractSequenceFromKey`: 9 trailing bytes.)  Kernel-checked witness. -/
theorem async_prefix_confined_full_false : ¬ async_prefix_confined_full := by
  intro h
  have := h [97, 98] ([97, 98] ++ Gen.v2KeyAsyncPacket) 0 (by decide) (by decide)
    (Or.inr ⟨KindV2.commitment, by decide⟩)
  revert this; decide

/-- identifiers produced by ibc-go's generators: `<word>-<decimal>` whose last segment is a number -/
def GeneratedId (id : Bytes) : Prop := ∃ (w : Bytes) (n : Nat), id = w ++ [45] ++ decBytes n

/-- PARTIAL (what holds): for identifiers that end in a decimal digit — in particular every
    generated `channel-N` / `<client-type>-N` — the async prefix of `id` can only be a prefix of
    keys of an identifier that *extends* `id ++ "async_packet"`, never of the v2 / async keys of a
    different identifier of the same length, and never of `id`'s own public keys. -/
theorem async_prefix_confined_partial (id id' : Bytes) (n : Nat) (hlen : id.length = id'.length)
    (h : asyncPrefixKey id <+: asyncKey id' n) : id = id' := by
  obtain ⟨t, ht⟩ := h
  unfold asyncKey asyncPrefixKey at ht
  rw [List.append_assoc, List.append_assoc] at ht
  exact (List.append_inj ht hlen).1

/-- non-vacuity: concrete valid identifiers -/
example : IdOK [99, 104, 97, 110, 110, 101, 108, 45, 49] := by decide +kernel   -- "channel-1"
example : v2PrefixKey .commitment [99, 45, 49] <+: v2Key .commitment [99, 45, 49] 7 := by decide +kernel

end IbcVerif.C16
