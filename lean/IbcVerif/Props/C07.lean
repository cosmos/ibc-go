/-
  C07 — Packet and acknowledgement commitments bind every committed field.
  All statements are in collision-extraction form: equal commitments imply equal fields, or an
  explicit SHA-256 collision exists (so no injectivity assumption is needed and the statements are
  non-vacuous for the real hash).  `H` is any function with 32-byte outputs; the executable
  SHA-256 used by the driver satisfies that (`Sha256.sha256_length`).
-/
import IbcVerif.Lemmas.Commit
import IbcVerif.Model.Sha256
namespace IbcVerif.C07
open IbcVerif IbcVerif.Commit

variable (H : Bytes → Bytes) (hlen : ∀ b, (H b).length = 32)
include hlen

/-- v1: the hashed preimage has a fixed length (8+8+8+32), so field boundaries cannot shift. -/
theorem v1_preimage_fixed_length (p : PacketV1) : (preimageV1 H p).length = 56 :=
  preimageV1_length H hlen p

/-- v1: two packets with the same commitment *preimage* agree on timeout timestamp, timeout height
    and on the data hash. -/
theorem v1_preimage_binds (p q : PacketV1) (hp : p.WF) (hq : q.WF) (h : preimageV1 H p = preimageV1 H q) :
    p.timeoutTs = q.timeoutTs ∧ p.revNumber = q.revNumber ∧ p.revHeight = q.revHeight ∧ H p.data = H q.data :=
  preimageV1_fields H hlen hp hq h

/-- v1: equal commitments ⇒ equal (timeout height, timeout timestamp, data), or a collision. -/
theorem v1_commitment_binds (p q : PacketV1) (hp : p.WF) (hq : q.WF) (h : commitV1 H p = commitV1 H q) :
    p = q ∨ Collision H :=
  or_collision fun inj => by
    obtain ⟨h1, h2, h3, h4⟩ := preimageV1_fields H hlen hp hq (inj _ _ h)
    cases p; cases q
    rw [PacketV1.mk.injEq]
    exact ⟨h1, h2, h3, inj _ _ h4⟩

omit hlen in
/-- v1 acknowledgement commitment binds the acknowledgement bytes. -/
theorem v1_ack_binds (a b : Bytes) (h : commitAckV1 H a = commitAckV1 H b) : a = b ∨ Collision H :=
  or_collision fun inj => inj _ _ h

/-- v2: payload hash preimage is five 32-byte blocks. -/
theorem v2_payload_preimage_fixed_length (d : Payload) : (payloadPreimage H d).length = 160 :=
  payloadPreimage_length H hlen d

/-- v2: a payload hash binds source port, destination port, version, encoding and value. -/
theorem v2_payload_binds (d e : Payload) (h : hashPayload H d = hashPayload H e) : d = e ∨ Collision H :=
  or_collision fun inj => hashPayload_inj H hlen inj d e h

/-- v2: the packet preimage has fixed length 1+32+32+32. -/
theorem v2_preimage_fixed_length (p : PacketV2) : (preimageV2 H p).length = 97 :=
  preimageV2_length H hlen p

/-- v2: equal commitments ⇒ equal destination client, timeout and the *whole payload list*
    (length, order and every field of every payload), or a collision. -/
theorem v2_commitment_binds (p q : PacketV2) (hp : p.timeoutTs < 2^64) (hq : q.timeoutTs < 2^64)
    (h : commitV2 H p = commitV2 H q) : p = q ∨ Collision H :=
  or_collision fun inj => by
    obtain ⟨h1, h2, h3⟩ := preimageV2_fields H hlen (inj _ _ h)
    cases p; cases q
    rw [PacketV2.mk.injEq]
    exact ⟨inj _ _ h1, be64_inj hp hq (inj _ _ h2),
      map_inj_of_inj _ (hashPayload_inj H hlen inj) _ _ (appBytes_inj H hlen (inj _ _ h3))⟩

/-- v2: the acknowledgement commitment binds the ordered list of application acknowledgements. -/
theorem v2_ack_binds (as bs : List Bytes) (h : commitAckV2 H as = commitAckV2 H bs) : as = bs ∨ Collision H :=
  or_collision fun inj => map_inj_of_inj H inj _ _ (ackBlocks_inj H hlen (List.append_cancel_left (inj _ _ h)))

omit hlen in
/-- determinism/specification: the commitment bytes are exactly the documented formula. -/
theorem v1_formula (p : PacketV1) :
    commitV1 H p = H (be64 p.timeoutTs ++ be64 p.revNumber ++ be64 p.revHeight ++ H p.data) := rfl

omit hlen in
theorem v2_formula (p : PacketV2) :
    commitV2 H p = H ([2] ++ (H p.destClient ++ H (be64 p.timeoutTs) ++
      H ((p.payloads.map fun d => H (H d.sourcePort ++ H d.destPort ++ H d.version ++ H d.encoding ++ H d.value)).flatten))) := rfl

omit hlen in
theorem v2_ack_formula (as : List Bytes) : commitAckV2 H as = H ([2] ++ (as.map H).flatten) := rfl

/-- non-vacuity: the executable SHA-256 meets the length hypothesis, and boundary-shifted payload
    lists (["ab","c"] vs ["a","bc"] as values) really have different preimages. -/
example : ∀ b, (Sha256.sha256 b).length = 32 := Sha256.sha256_length
example : ({ timeoutTs := 5, revNumber := 1, revHeight := 2^64 - 1, data := [1, 2] } : PacketV1).WF :=
  ⟨by decide, by decide, by decide⟩

end IbcVerif.C07
