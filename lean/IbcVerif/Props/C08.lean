/-
  C08 — Sends allocate consecutive sequences and respect send-time guards.

  `sendSeqs id log` = the sequences returned by the successful sends on identifier `id` (a v1 channel
  id, which is also its v2 alias, or a v2 client id), v1 and v2 sends interleaved, in order.
-/
import IbcVerif.Lemmas.ChainInv2
namespace IbcVerif.C08
open IbcVerif IbcVerif.Chain

/-- after any history the successful sends on an id returned exactly 1, 2, 3, … (nextSequenceSend-1)
    in that order — v1 and v2 sends on an aliased channel share the one counter. -/
theorem send_allocates_shared_sequence (ops : List Op) (id : Id) (n : Nat)
    (h : (run init ops).nextSend.get id = some n) :
    1 ≤ n ∧ sendSeqs id (run init ops).log = List.range' 1 (n - 1) :=
  (inv2_run_init ops).sendSeq id n h

/-- a successful v1 send returns the current counter, bumps it by one and writes exactly one
    commitment — nothing else in the state changes (the log entry is the ghost record of the send). -/
theorem sendV1_effect (s s' : ChainState) (env : Env) (port chan : Id) (thRev thH tt : Nat) (data : Hex) (r : String)
    (h : step s ⟨env, .sendV1 port chan thRev thH tt data⟩ = (s', .ok r)) :
    ∃ seq, r = toString seq ∧ s.nextSend.get chan = some seq ∧
      s' = { s with nextSend := s.nextSend.set chan (seq + 1),
                    commitV1 := s.commitV1.set (port, chan, seq) ⟨tt, thRev, thH, data⟩,
                    log := s.log ++ [.send1 port chan seq] } := by
  obtain ⟨seq, s1, h1, rfl, hr⟩ := (sendV1_cases h).ok rfl
  obtain ⟨_, _, _, hseq, rfl, _⟩ := sendPacketV1_ok h1
  exact ⟨seq, Out.ok.inj hr, hseq, rfl⟩

/-- a successful v2 send (on a client id or on an alias): same counter, one v2 commitment; besides
    that only the sending applications' own writes. -/
theorem sendV2_effect (s s' : ChainState) (env : Env) (src : Id) (tt : Nat) (payloads : List Payload) (apps : List AppV2)
    (r : String) (h : step s ⟨env, .sendV2 src tt payloads apps⟩ = (s', .ok r)) :
    ∃ seq cpId app, r = toString seq ∧ s.nextSend.get src = some seq ∧
      s' = { s with nextSend := s.nextSend.set src (seq + 1),
                    commitV2 := s.commitV2.set (src, seq) ⟨cpId, tt, payloads⟩,
                    app := app, log := s.log ++ [.send2 src seq payloads.length] } := by
  obtain ⟨seq, s1, app, h1, rfl, hr⟩ := (sendV2_cases h).ok rfl
  obtain ⟨cpId, _, _, hseq, rfl⟩ := sendPacketV2_ok h1
  exact ⟨seq, cpId, app, Out.ok.inj hr, hseq, rfl⟩

/-- v1 send-time guards: a send succeeds only if the channel is OPEN, the client is Active with a
    non-zero latest height, and the timeout has not passed w.r.t. the client's latest consensus state. -/
theorem sendV1_guards (s s' : ChainState) (env : Env) (port chan : Id) (thRev thH tt seq : Nat) (data : Hex)
    (h : sendPacketV1 s env port chan thRev thH tt data = .ok (s', seq)) :
    ∃ ch conn lts, s.chan.get (port, chan) = some ch ∧ ch.state = .opened ∧
      getConn s ch = .ok conn ∧ clientStatus s env conn.2.client = .active ∧
      (clientLatestHeight s env conn.2.client).isZero = false ∧
      clientTimestampAt s env conn.2.client = .ok lts ∧
      (Timeout.elapsed ⟨⟨UInt64.ofNat thRev, UInt64.ofNat thH⟩, UInt64.ofNat tt⟩
        (clientLatestHeight s env conn.2.client) (UInt64.ofNat lts)) = false ∧
      ¬ (thRev = 0 ∧ thH = 0 ∧ tt = 0) ∧ data ≠ "" :=
  let ⟨ch, a, b, _, _, conn, lts, c⟩ := sendPacketV1_ok h
  ⟨ch, conn, lts, a, b, c⟩

/-- v2 block-time window: accepted iff the timeout (Go's `time.Unix(int64(T),0)`) is strictly after
    the block time and at most MaxTimeoutDelta (24 h) ahead. -/
theorem v2_window_iff (env : Env) (tt : Nat) :
    v2TimeoutWindow env tt = .ok () ↔
      blockInternalSec env < timeoutInternalSec tt ∧ timeoutInternalSec tt ≤ blockInternalSec env + maxTimeoutDelta := by
  simp only [v2TimeoutWindow, error_else_eq_ok, Int.not_le, gt_iff_lt, Int.not_lt, and_true]

/-- v2 light-client guards: Active, non-zero height, timeout strictly after the latest consensus
    timestamp (in whole seconds). -/
theorem v2_client_guards_iff (s : ChainState) (env : Env) (src : Id) (tt : Nat) :
    sendV2ClientGuards s env src tt = .ok () ↔
      clientStatus s env (baseClient s src) = .active ∧
      (clientLatestHeight s env (baseClient s src)).isZero = false ∧
      ∃ lts, clientTimestampAt s env (baseClient s src) = .ok lts ∧ nanosToSecsU64 lts < tt := by
  simp only [sendV2ClientGuards, error_else_eq_ok, Decidable.not_not, Bool.not_eq_true]
  cases clientTimestampAt s env (baseClient s src) <;>
    simp only [error_else_eq_ok, reduceCtorEq, Except.ok.injEq, exists_eq_left', false_and, exists_false, and_false, and_true,
      ge_iff_le, Nat.not_le]

/-- a successful v2 send passed both guards and found a registered counterparty. -/
theorem sendV2_guards (s s' : ChainState) (env : Env) (src : Id) (tt seq : Nat) (payloads : List Payload)
    (h : sendPacketV2 s env src tt payloads = .ok (s', seq)) :
    s.cpV2.get src ≠ none ∧ v2TimeoutWindow env tt = .ok () ∧ sendV2ClientGuards s env src tt = .ok () := by
  unfold sendPacketV2 at h
  split at h
  · cases h
  · rename_i cpId n hc
    obtain ⟨pfx, hcp, hw, _, hg⟩ := sendChecksV2_ok hc
    exact ⟨by rw [hcp]; simp, hw, hg⟩

/-- a step that fails changes no state; a rejected send is one such step. -/
theorem send_failure_no_state_change (s : ChainState) (op : Op) (h : (step s op).2.isOk = false) : (step s op).1 = s :=
  step_unchanged rfl h

example : Inv2 Chain.init := Inv2.init

end IbcVerif.C08
