/-
  C15 (counters / history half) — identifiers generated by the chain are never reused.
  (Formatting, parsing and validation of identifiers are in Props/C15.lean.)

  `Event.hs "init"|"try" port chan`, `Event.genConn id`, `Event.genClient id` record the identifier
  a committed ChanOpenInit/Try, ConnOpenInit/Try, CreateClient generated.  Failed attempts (for
  instance a ChanOpenTry whose proof does not verify after the counter was already bumped) are
  reverted with their counter increment and never stored, so they cannot cause reuse either: the
  next successful attempt simply gets the same fresh number.
-/
import IbcVerif.Lemmas.ChainInv3
namespace IbcVerif.C15H
open IbcVerif IbcVerif.Chain

/-- over any history every channel identifier was generated at most once (whatever the port). -/
theorem channel_ids_never_reused (ops : List Op) (chan : Id) :
    ((run init ops).log.filter (Event.isChanGen chan)).length ≤ 1 :=
  (inv3_run_init ops).chanGenCount chan

theorem connection_ids_never_reused (ops : List Op) (c : Id) :
    ((run init ops).log.filter (Event.isConnGen c)).length ≤ 1 :=
  (inv3_run_init ops).connGenCount c

theorem client_ids_never_reused (ops : List Op) (c : Id) :
    ((run init ops).log.filter (Event.isClientGen c)).length ≤ 1 :=
  (inv3_run_init ops).clientGenCount c

/-- every stored channel / connection identifier is `channel-m` / `connection-m` with `m` below the
    current counter (so the next generated identifier differs from all of them), and the counters
    never decrease. -/
theorem stored_ids_below_counter (ops : List Op) :
    (∀ p c ch, (run init ops).chan.get (p, c) = some ch → ∃ m, m < (run init ops).nextChanSeq ∧ c = fmtChan m) ∧
    (∀ c e, (run init ops).conn.get c = some e → c = "connection-localhost" ∨ ∃ m, m < (run init ops).nextConnSeq ∧ c = fmtConn m) :=
  ⟨(inv_run_init ops).chanId, (inv3_run_init ops).connId⟩

theorem counters_never_decrease (s : ChainState) (op : Op) :
    s.nextChanSeq ≤ (step s op).1.nextChanSeq ∧ s.nextConnSeq ≤ (step s op).1.nextConnSeq ∧
    s.nextClientSeq ≤ (step s op).1.nextClientSeq := by
  have ht := tr_step s op
  exact ⟨ht.nChan, ht.nConn, ht.nClient⟩

/-- the formatted identifiers are injective in the counter (and, for clients, the sequence is
    determined by the identifier whatever the client type). -/
theorem generated_ids_injective :
    (∀ a b, fmtChan a = fmtChan b → a = b) ∧ (∀ a b, fmtConn a = fmtConn b → a = b) ∧
    (∀ t t' a b, fmtClient t a = fmtClient t' b → a = b) :=
  ⟨fun _ _ => fmtChan_inj, fun _ _ => fmtConn_inj, fun _ _ _ _ => fmtClient_seq_inj⟩

example : Inv3 Chain.init := Inv3.init

end IbcVerif.C15H
