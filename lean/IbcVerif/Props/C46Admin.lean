/-
  C46 (administration half): rate-limit administration and wasm code management take effect only when
  the configured authority signs.  Decision logic stated outright, for every keeper step.
-/
import IbcVerif.Model.Admin
namespace IbcVerif.C46A
open IbcVerif.Admin

/-- any state change of a gated handler was signed by the authority -/
theorem admin_effect_needs_authority {σ : Type} (authority signer : String) (step : σ → Option σ) (s s' : σ)
    (h : handler authority signer step s = some s') : signer = authority := by
  unfold handler validateAuthority at h
  split at h
  · rename_i hv; exact (of_decide_eq_true hv).symm
  · cases h

/-- a stranger's message fails and leaves the state as it was (the keeper step is never reached) -/
theorem admin_stranger_rejected {σ : Type} (authority signer : String) (step : σ → Option σ) (s : σ)
    (h : signer ≠ authority) : handler authority signer step s = none := by
  unfold handler validateAuthority
  rw [if_neg]
  intro hv; exact h (of_decide_eq_true hv).symm

/-- the authority's message is exactly the keeper step -/
theorem admin_authority_passes {σ : Type} (authority : String) (step : σ → Option σ) (s : σ) :
    handler authority authority step s = step s := by
  simp [handler, validateAuthority]

/-- over any history of administration messages by arbitrary signers, the final state is the one
    produced by the authority-signed messages alone -/
theorem admin_history_only_authority {σ : Type} (authority : String) (msgs : List (String × (σ → Option σ))) (s : σ) :
    msgs.foldl (fun st m => (handler authority m.1 m.2 st).getD st) s =
    (msgs.filter (fun m => m.1 = authority)).foldl (fun st m => (m.2 st).getD st) s := by
  induction msgs generalizing s with
  | nil => rfl
  | cons m ms ih =>
    simp only [List.foldl_cons, List.filter_cons]
    by_cases h : m.1 = authority
    · simp only [h, decide_true, if_true, List.foldl_cons]
      rw [show handler authority authority m.2 s = m.2 s from admin_authority_passes authority m.2 s]
      exact ih _
    · simp only [h, decide_false, Bool.false_eq_true, if_false]
      rw [admin_stranger_rejected authority m.1 m.2 s h]
      exact ih _

example : handler "gov" "gov" (fun n : Nat => some (n + 1)) 0 = some 1 := by decide +kernel
example : handler "gov" "mallory" (fun n : Nat => some (n + 1)) 0 = none := by decide +kernel

end IbcVerif.C46A
