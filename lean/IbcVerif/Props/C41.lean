/-
  C41 — Rate-limit flows track exactly the in-window accepted transfers.
  Model: IbcVerif/Model/RateLimit.lean (the keeper and both middlewares), the reference account
  IbcVerif/Model/RateLimitSpec.lean, helper lemmas IbcVerif/Lemmas/RateLimit.lean.

  `UpdateRateLimit` / `RemoveRateLimit` clear the pending markers of the path (/repo commit 05cc95a; before
  it they survived — DESIGN §6 F4 — and `add; send p; update; send q; timeout p` gave outflow q − p): the
  model mirrors that code, so the accounting theorem below holds for ALL histories that satisfy `WF`,
  administration included.  The history that showed F4 is the regression theorem `f4_witness_now_correct`.

  `WF` asks for a fresh sequence per send on a path.  An IBC v2 packet with two ICS-20 payloads of the
  same denom is two sends with one sequence, so `WF` is false of it and the theorems say nothing about
  it: that input is the open finding `C41-v2-multi-payload-same-denom-shares-one-pending-marker` of
  known_findings.json (both payloads share one pending marker; a timeout undoes only the first amount).
-/
import IbcVerif.Model.RateLimit
import IbcVerif.Model.RateLimitSpec
import IbcVerif.Lemmas.RateLimit
namespace IbcVerif.C41
open IbcVerif.Apps IbcVerif.RateLimit

/-- "within quota" exactly as `CheckExceedsQuota` decides it: net flow in the packet's direction,
    including the packet, does not exceed ⌊channelValue · percent / 100⌋ — or the channel value
    recorded at window start is zero (the code's explicit carve-out: no supply, no limit). -/
def WithinQuota (l : Limit) (d : Dir) (amt : Int) : Prop :=
  l.flow.chanValue = 0 ∨
  match d with
  | .send => l.flow.outflow - l.flow.inflow + amt ≤ (l.flow.chanValue * l.quota.maxSend).tdiv 100
  | .recv => l.flow.inflow - l.flow.outflow + amt ≤ (l.flow.chanValue * l.quota.maxRecv).tdiv 100

/-- A send on a rate-limited path (denom not blacklisted, address pair not whitelisted) is accepted
    iff the resulting net outflow stays within the quota; otherwise it fails with the quota error
    and nothing changes. -/
theorem send_accept_iff_within_quota (s : State) (p : Pkt) (l : Limit)
    (hb : p.denom ∉ s.blacklist) (hl : (s.path p.path).limit = some l)
    (hw : (p.sender, p.receiver) ∉ s.whitelist) :
    ((sendPacket s p).2 = .counted ↔ WithinQuota l .send p.amt) ∧
    ((sendPacket s p).2 = .quota ↔ ¬ WithinQuota l .send p.amt) ∧
    (¬ WithinQuota l .send p.amt → (sendPacket s p).1 = s) := by
  have key : l.updateFlow .send p.amt = none ↔ ¬ WithinQuota l .send p.amt := updateFlow_eq_none l .send p.amt
  unfold sendPacket checkAndUpdate
  simp only [hb, if_false, hl, hw]
  cases hu : l.updateFlow .send p.amt
  all_goals
    simp [hu] at key
    simp [key]

/-- The same for the receive direction: the rate-limit stage of `OnRecvPacket` lets the packet through
    to the application iff the net inflow stays within the quota; otherwise the receive ends in an
    error acknowledgement. -/
theorem recv_accept_iff_within_quota (s : State) (p : Pkt) (app : AppAck) (l : Limit)
    (hb : p.denom ∉ s.blacklist) (hl : (s.path p.path).limit = some l)
    (hw : (p.sender, p.receiver) ∉ s.whitelist) :
    ((recvPacket s p app).2.1 = .counted ↔ WithinQuota l .recv p.amt) ∧
    (¬ WithinQuota l .recv p.amt → (recvPacket s p app).2 = (.quota, .error)) := by
  have key : l.updateFlow .recv p.amt = none ↔ ¬ WithinQuota l .recv p.amt := updateFlow_eq_none l .recv p.amt
  unfold recvPacket mwRecv checkAndUpdate
  simp only [hb, if_false, hl, hw]
  cases hu : l.updateFlow .recv p.amt
  all_goals
    simp [hu] at key
    simp [key]

/-- Nothing is recorded (no flow change, no marker) for a path without limit or a whitelisted
    address pair, and a blacklisted denom is always rejected. -/
theorem send_unlimited_or_rejected (s : State) (p : Pkt) :
    (p.denom ∈ s.blacklist → sendPacket s p = (s, .blacklisted)) ∧
    (p.denom ∉ s.blacklist → (s.path p.path).limit = none → sendPacket s p = (s, .passed)) ∧
    (p.denom ∉ s.blacklist → (p.sender, p.receiver) ∈ s.whitelist → sendPacket s p = (s, .passed)) := by
  refine ⟨fun hb => ?_, fun hb hl => ?_, fun hb hw => ?_⟩
  · simp [sendPacket, checkAndUpdate, hb]
  · simp [sendPacket, checkAndUpdate, hb, hl]
  · unfold sendPacket checkAndUpdate
    cases hl : (s.path p.path).limit <;> simp [hb, hw, hl]

/-- **The accounting invariant, over all histories.**  Start from an empty rate-limit store and run ANY
    history of sends, receives (any application verdict), acknowledgements, timeouts, async
    acknowledgements, BeginBlocker epoch resets, Add / Update / Remove / Reset and black/white-list
    changes that respects what core IBC and ICS-20 guarantee the middleware (`WF`: fresh sequences,
    positive amounts, ack/timeout carry the sent packet).  Then on every path that has a limit:
    recorded outflow = accepted in the current window − undone in that window, the same for the
    inflow, both are non-negative, and the channel value is the supply read at window start. -/
theorem flows_accounting (n : Nat) (st d : Int) (ops : List Op) (hwf : WF ops) (k : Path) (l : Limit)
    (hl : ((run (State.init n st d) ops).path k).limit = some l) :
    ∃ w, KV.get (runBoth (State.init n st d) [] ops).2 k = some w ∧
      l.flow.outflow = w.out.accepted - w.out.undoneSum ∧
      l.flow.inflow = w.inn.accepted - w.inn.undoneSum ∧
      0 ≤ l.flow.outflow ∧ 0 ≤ l.flow.inflow ∧
      l.flow.chanValue = w.startValue := by
  obtain ⟨w, hw, ho, hi, hv⟩ := (GInv.run n st d ops hwf k).of_limit hl
  exact ⟨w, hw, ho.flow_accounting.1, hi.flow_accounting.1, ho.flow_accounting.2, hi.flow_accounting.2, hv⟩

/-- The pending-marker sets are exactly the packets accepted in the current window that have no
    terminal outcome yet (so a refund can only ever concern a packet of the current window), and a
    path without limit carries no markers at all. -/
theorem markers_are_open_packets (n : Nat) (st d : Int) (ops : List Op) (hwf : WF ops) (k : Path) :
    let s := run (State.init n st d) ops
    (∀ l, (s.path k).limit = some l → ∃ w, KV.get (runBoth (State.init n st d) [] ops).2 k = some w ∧
      (∀ seq, seq ∈ (s.path k).pendSend ↔ ∃ amt, (seq, amt) ∈ w.out.opn) ∧
      (∀ seq, seq ∈ (s.path k).pendRecv ↔ ∃ amt, (seq, amt) ∈ w.inn.opn)) ∧
    ((s.path k).limit = none → (s.path k).pendSend = [] ∧ (s.path k).pendRecv = []) := by
  have h := GInv.run n st d ops hwf k
  refine ⟨fun l hl => ?_, fun hl => (h.of_no_limit hl).2⟩
  obtain ⟨w, hw, ho, hi, _⟩ := h.of_limit hl
  exact ⟨w, hw, ho.pend_iff, hi.pend_iff⟩

/-- Each packet is undone at most once (no hypothesis on the history): whatever the state, once a
    packet had a terminal outcome (success ack, error ack or timeout) a further error ack or timeout
    of the same packet changes no flow. -/
theorem undo_at_most_once (s : State) (p : Pkt) (ok : Bool) (k : Path) :
    ((undoSend (ackPacket s p ok) p).path k).limit = ((ackPacket s p ok).path k).limit ∧
    ((undoSend (undoSend s p) p).path k).limit = ((undoSend s p).path k).limit := by
  -- `undoSend s' p` is `ackPacket s' p false` by computation
  have key (ok : Bool) :
      ((ackPacket (ackPacket s p ok) p false).path k).limit = ((ackPacket s p ok).path k).limit := by
    rw [ackPacket_local]
    split
    · rename_i hk
      rw [← hk, ackPacket_local, if_pos rfl]
      exact undoSendL_limit ackL_not_pend p.amt
    · rfl
  exact ⟨key ok, key false⟩

/-- A receive that ends in an error acknowledgement — whether the rate limiter refused it or the
    application failed — leaves the whole rate-limit state unchanged (the flow update lives in the
    discarded cache context of the receive). -/
theorem error_ack_recv_leaves_state (s : State) (p : Pkt) (app : AppAck)
    (h : (recvPacket s p app).2.2 = .error) : (recvPacket s p app).1 = s := by
  unfold recvPacket at h ⊢
  exact if_pos h

/-- In particular an application error acknowledgement is passed on unchanged. -/
theorem app_error_is_error_ack (s : State) (p : Pkt) : (recvPacket s p .error).2.2 = .error := by
  unfold recvPacket mwRecv
  cases checkAndUpdate s .recv p <;> rfl

/-- The history of finding F4 (fixed by /repo 05cc95a): add; send p=60; UpdateRateLimit; send q=80;
    timeout p.  The code before the fix recorded outflow 20; the refund of the pre-update packet must
    not touch the new window: outflow is 80.  The same through Remove + Add. -/
theorem f4_witness_now_correct :
    let k : Path := ("uaaa", "channel-0")
    let pk (seq : Nat) (amt : Int) : Pkt := ⟨"channel-0", "uaaa", seq, amt, "a", "b"⟩
    let viaUpdate : List Op := [.add k ⟨50, 50, 1⟩ 1000 true, .send (pk 1 60), .update k ⟨50, 50, 1⟩ 1000,
      .send (pk 2 80), .timeout (pk 1 60)]
    let viaRemove : List Op := [.add k ⟨50, 50, 1⟩ 1000 true, .send (pk 1 60), .remove k, .add k ⟨50, 50, 1⟩ 1000 true,
      .send (pk 2 80), .timeout (pk 1 60)]
    (((run (State.init 0 0 3600) viaUpdate).path k).limit.map (·.flow.outflow) = some 80) ∧
    (((run (State.init 0 0 3600) viaRemove).path k).limit.map (·.flow.outflow) = some 80) := by
  decide +kernel

/-- non-vacuity: a well-formed history with an update in the middle, an error ack, a timeout of a
    pre-update packet, an async receive that is later refused — ends with outflow 80, inflow 0 and
    the reference account agrees (accepted 80+0, undone 0; accepted in 30, undone in 30). -/
example :
    let k : Path := ("uaaa", "channel-0")
    let pk (seq : Nat) (amt : Int) : Pkt := ⟨"channel-0", "uaaa", seq, amt, "a", "b"⟩
    let ops : List Op := [.add k ⟨50, 50, 1⟩ 1000 true, .send (pk 1 60), .update k ⟨50, 50, 1⟩ 1000,
      .send (pk 2 80), .timeout (pk 1 60), .recv (pk 7 30) .async, .send (pk 3 500), .writeAck (pk 7 30) false]
    WF ops ∧
    ((run (State.init 0 0 3600) ops).path k).limit.map (·.flow) = some ⟨0, 80, 1000⟩ ∧
    (KV.get (runBoth (State.init 0 0 3600) [] ops).2 k).map
      (fun w => (w.out.accepted, w.out.undoneSum, w.inn.accepted, w.inn.undoneSum)) = some (80, 0, 30, 30) := by
  refine ⟨WF_of_wfb _ (by decide +kernel), by decide +kernel, by decide +kernel⟩

end IbcVerif.C41
