/-
  C14 — Ordered-channel timeouts close the channel for further packet flow.
-/
import IbcVerif.Lemmas.ChainInv2
import IbcVerif.Lemmas.ChainExamples
import IbcVerif.Props.C12
namespace IbcVerif.C14
open IbcVerif IbcVerif.Chain

/-- after a successful MsgTimeout on an ORDERED channel the sender's channel end is CLOSED. -/
theorem ordered_timeout_closes (s s' : ChainState) (env : Env) (p : PacketV1) (nsr a b : Nat) (app : AppV1) (r : String)
    (ch : Channel) (hc : s.chan.get (p.sp, p.sc) = some ch) (ho : ch.ordering = .ordered)
    (h : step s ⟨env, .timeoutV1 p nsr a b app⟩ = (s', .ok r)) :
    ∃ ch', s'.chan.get (p.sp, p.sc) = some ch' ∧ ch'.state = .closed := by
  obtain ⟨s1, h1, rfl⟩ := (timeoutV1_cases h).ok rfl
  obtain ⟨ch1, hc1, _, rfl⟩ := timeoutPacketV1_ok h1
  rw [hc] at hc1; cases hc1
  exact timeoutExecuted_closes s ch p ho

/-- the same for MsgTimeoutOnClose. -/
theorem ordered_timeoutOnClose_closes (s s' : ChainState) (env : Env) (p : PacketV1) (nsr : Nat) (app : AppV1) (r : String)
    (ch : Channel) (hc : s.chan.get (p.sp, p.sc) = some ch) (ho : ch.ordering = .ordered)
    (h : step s ⟨env, .timeoutOnCloseV1 p nsr app⟩ = (s', .ok r)) :
    ∃ ch', s'.chan.get (p.sp, p.sc) = some ch' ∧ ch'.state = .closed := by
  obtain ⟨s1, h1, rfl⟩ := (timeoutOnCloseV1_cases h).ok rfl
  obtain ⟨ch1, hc1, _, rfl⟩ := timeoutOnCloseV1_ok h1
  rw [hc] at hc1; cases hc1
  exact timeoutExecuted_closes s ch p ho

/-- on a CLOSED channel end no packet can be sent. -/
theorem closed_blocks_send (s : ChainState) (env : Env) (port chan : Id) (x y tt : Nat) (data : Hex) (ch : Channel)
    (hc : s.chan.get (port, chan) = some ch) (hcl : ch.state = .closed) :
    (step s ⟨env, .sendV1 port chan x y tt data⟩).2.isOk = false ∧ (step s ⟨env, .sendV1 port chan x y tt data⟩).1 = s := by
  refine not_ok_unchanged fun s' r hstep => ?_
  obtain ⟨seq, s1, h1, _⟩ := (sendV1_cases hstep).ok rfl
  obtain ⟨ch1, hc1, hst, _⟩ := sendPacketV1_ok h1
  rw [hc] at hc1; cases hc1; rw [hcl] at hst; cases hst

/-- on a CLOSED channel end no packet can be received. -/
theorem closed_blocks_recv (s : ChainState) (env : Env) (p : PacketV1) (app : AppV1) (ch : Channel)
    (hc : s.chan.get (p.dp, p.dc) = some ch) (hcl : ch.state = .closed) :
    (step s ⟨env, .recvV1 p app⟩).2.isOk = false ∧ (step s ⟨env, .recvV1 p app⟩).1 = s := by
  refine not_ok_unchanged fun s' r hstep => ?_
  obtain ⟨s1, h1, _⟩ := (recvV1_cases hstep).ok rfl
  obtain ⟨ch1, hc1, hst, _⟩ := recvPacketV1_ok h1
  rw [hc] at hc1; cases hc1; rw [hcl] at hst; cases hst

/-- on a CLOSED channel end no packet can be acknowledged. -/
theorem closed_blocks_ack (s : ChainState) (env : Env) (p : PacketV1) (ack : Hex) (app : AppV1) (ch : Channel)
    (hc : s.chan.get (p.sp, p.sc) = some ch) (hcl : ch.state = .closed) :
    (step s ⟨env, .ackV1 p ack app⟩).2.isOk = false ∧ (step s ⟨env, .ackV1 p ack app⟩).1 = s := by
  refine not_ok_unchanged fun s' r hstep => ?_
  obtain ⟨s1, h1, _⟩ := (ackV1_cases hstep).ok rfl
  obtain ⟨ch1, hc1, hst, _⟩ := acknowledgePacketV1_ok h1
  rw [hc] at hc1; cases hc1; rw [hcl] at hst; cases hst

/-- on a CLOSED channel end no acknowledgement can be written (asynchronous path). -/
theorem closed_blocks_writeAck (s : ChainState) (env : Env) (p : PacketV1) (w : Option (Bool × Hex)) (ch : Channel)
    (hc : s.chan.get (p.dp, p.dc) = some ch) (hcl : ch.state = .closed) :
    (step s ⟨env, .writeAckV1 p w⟩).2.isOk = false ∧ (step s ⟨env, .writeAckV1 p w⟩).1 = s := by
  refine not_ok_unchanged fun s' r hstep => ?_
  obtain ⟨_, ch1, _, _, hc1, hst, _⟩ := writeAckV1_ok ((writeAckV1_cases hstep).ok rfl)
  rw [hc] at hc1; cases hc1; rw [hcl] at hst; cases hst

/-- CLOSED is terminal: no step reopens a closed channel end (any history keeps it closed). -/
theorem closed_is_terminal (ops : List Op) (op : Op) (port chan : Id) (ch : Channel)
    (hc : (run init ops).chan.get (port, chan) = some ch) (hcl : ch.state = .closed) :
    ∃ ch', (step (run init ops) op).1.chan.get (port, chan) = some ch' ∧ ch'.state = .closed := by
  obtain ⟨ch', h1, _, _, _, htr, _⟩ := C12.chan_state_transitions ops op port chan ch hc
  exact ⟨ch', h1, C12.closed_is_terminal _ (hcl ▸ htr)⟩

/-- other in-flight packets can still be timed out on the closed end: the timeout handlers never
    look at the channel state (they succeed or fail exactly as on an open end). -/
theorem timeout_ignores_channel_state (s : ChainState) (env : Env) (p : PacketV1) (nsr a b : Nat) (ch : Channel)
    (st : ChanState) (hc : s.chan.get (p.sp, p.sc) = some ch) :
    (timeoutPacketV1 { s with chan := s.chan.set (p.sp, p.sc) { ch with state := st } } env p nsr a b).toBool =
    (timeoutPacketV1 s env p nsr a b).toBool := by
  unfold timeoutPacketV1
  simp only [FMap.get_set_self, hc]
  have hg : getConn { s with chan := s.chan.set (p.sp, p.sc) { ch with state := st } } { ch with state := st } = getConn s ch := rfl
  have hv : ∀ c v, verify { s with chan := s.chan.set (p.sp, p.sc) { ch with state := st } } env c v = verify s env c v := fun _ _ => rfl
  have ht : ∀ c, clientTimestampAt { s with chan := s.chan.set (p.sp, p.sc) { ch with state := st } } env c = clientTimestampAt s env c := fun _ => rfl
  simp only [hg, hv, ht]
  refine toBool_guard (toBool_guard ?_)
  split
  · rfl
  split
  · rfl
  refine toBool_guard ?_
  split
  · rfl
  refine toBool_guard ?_
  split
  · refine toBool_guard ?_
    split <;> rfl
  · split <;> rfl
  · rfl

example : Inv Chain.init := Inv.init

/-- non-vacuity: a state with a CLOSED ORDERED end, on which sends and acknowledgements are rejected
    with the channel-state error -/
example : Ex.sClosed.chan.get ("mock", "channel-0") = some Ex.chClosedOrdered ∧ Ex.chClosedOrdered.state = .closed := by decide +kernel
example : (step Ex.sClosed ⟨Ex.envOK, .sendV1 "mock" "channel-0" 1 100 0 "01"⟩).2 = .err eChanState := by decide +kernel
example : (step Ex.sClosed ⟨Ex.envOK, .ackV1 Ex.pkOut "aa" Ex.appOK⟩).2 = .err eChanState := by decide +kernel

end IbcVerif.C14
