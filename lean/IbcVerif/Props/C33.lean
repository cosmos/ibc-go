/-
  C33 — Vouchers can always return over their channel as the original token.
  Property theorems only; helper lemmas live in IbcVerif/Lemmas/Denom*.lean, Ics20*.lean.

  Model: `ExtractDenomFromPath` / `Path` (Model/Denom.lean) and the stateful ICS-20 model (Model/Ics20.lean).
  The base denominations the origin chain accepts for transfer are those passing `Transfer`'s guards:
  in particular `ValidateBaseNotHopLike` (`hopFreeBase`, fix 4b2f809).  Bases with any number of
  '/'-separated segments of any other shape are accepted and covered (`slashed_bases_accepted`).

  Before fix 4b2f809 the property was false: a native base `transfer/channel-1/ufoo` did not come back
  from a round trip, and the voucher of a two-segment base `ab/channel-2` could never be sent again
  (both reproduced on the real code).  `Transfer` rejects both at the source (`prefix_witnesses_rejected`);
  the harness replays them as regression cases (group `findings`).
-/
import IbcVerif.Model.Ics20
import IbcVerif.Lemmas.Ics20Escrow
namespace IbcVerif.C33
open IbcVerif IbcVerif.Xfer IbcVerif.Ics20

/-- **Round trip at the level of denominations**, for every token `X` the origin accepts (hop-free
    base; any trace depth) and every channel pair `cA ↔ cB` with ibc-go formatted identifiers.
    Forward: `A` is the source for `X` over `cA`, `B` mints the voucher `Y = transfer/cB/X`.
    Return: `Y`'s path re-parses to `Y` itself on `B` (so `Transfer` / `ValidateBasic` accept it and `B`
    burns, not escrows), and on arrival `A` parses the very same path back to `Y`, recognises its own
    hop, strips it and addresses the coin of `X` — the original token, not a new voucher. -/
theorem roundtrip_denominations (H : Str → Str) (X : Denom) (cA cB : Str) (hX : GoodDenom X)
    (hcB : '/' ∉ cB ∧ isHopId cB = true) (hsrc : X.hasPrefix transferPort cA = false) :
    let Y : Denom := ⟨⟨transferPort, cB⟩ :: X.trace, X.base⟩
    ics20RecvCoinDenom H transferPort cA transferPort cB X.path = Y.ibcDenom H ∧
    extract Y.path = Y ∧ Y.hasPrefix transferPort cB = true ∧
    ics20RecvCoinDenom H transferPort cB transferPort cA Y.path = X.ibcDenom H := by
  have hsY := (hX.cons _ _ transferPort_no_sep hcB.1 hcB.2).stable
  refine ⟨?_, hsY, by simp [Denom.hasPrefix], ?_⟩
  · rw [recvCoin_mint (by rw [hX.stable]; exact hsrc), hX.stable]
  · rw [recvCoin_unwind (by rw [hsY]; simp [Denom.hasPrefix]), hsY]
    rfl

/-- native denominations: the special case the property statement speaks about -/
theorem roundtrip_returns_native (H : Str → Str) (base cA cB : Str) (hb : hopFreeBase base = true)
    (hi : ibcSlash.isPrefixOf base = false) (hcB : '/' ∉ cB ∧ isHopId cB = true) :
    ics20RecvCoinDenom H transferPort cB transferPort cA (Denom.path ⟨[⟨transferPort, cB⟩], base⟩) = base := by
  have hX : GoodDenom ⟨[], base⟩ := ⟨hb, hi, nofun⟩
  have := (roundtrip_denominations H ⟨[], base⟩ cA cB hX hcB rfl).2.2.2
  simpa [Denom.ibcDenom, Denom.isNative] using this

/-- bases with '/'-separated segments of any shape other than "second segment is a channel or client
    identifier" pass the guard — e.g. liquidity-pool and token-factory style denominations -/
theorem slashed_bases_accepted :
    hopFreeBase "gamm/pool/1".toList = true ∧ hopFreeBase "factory/cosmos1abc/utok".toList = true ∧
    hopFreeBase "a/b/c/d/e".toList = true ∧ hopFreeBase "x:y.z_w-v/q".toList = true ∧
    hopFreeBase "pool/channel/1".toList = true ∧ hopFreeBase "channel-1/x".toList = true := by decide +kernel

/-- the two witnesses against the code before fix 4b2f809 are rejected for transfer by the origin chain -/
theorem prefix_witnesses_rejected :
    hopFreeBase "transfer/channel-1/ufoo".toList = false ∧ hopFreeBase "ab/channel-2".toList = false := by decide +kernel

/-- … and why they had to be rejected: on the forward leg `B` parses `transfer/channel-1/ufoo` arriving from
    `channel-1` as *returning* `ufoo` (it addresses the coin `ufoo`, not a voucher), and the voucher path
    of `ab/channel-2`, i.e. `transfer/channel-2/ab/channel-2`, re-parses to an empty base, which `ValidateBasic` refuses for every later transfer. -/
theorem prefix_witnesses_misparsed (H : Str → Str) :
    ics20RecvCoinDenom H "transfer".toList "channel-1".toList "transfer".toList "channel-2".toList
      "transfer/channel-1/ufoo".toList = "ufoo".toList ∧
    (extract "transfer/channel-2/ab/channel-2".toList).validate = some .blankBase := by
  have ⟨e, hv⟩ :
      extract "transfer/channel-1/ufoo".toList = ⟨[⟨"transfer".toList, "channel-1".toList⟩], "ufoo".toList⟩ ∧
      (extract "transfer/channel-2/ab/channel-2".toList).validate = some .blankBase := by decide +kernel
  refine ⟨?_, hv⟩
  unfold ics20RecvCoinDenom
  rw [e]
  simp [Denom.hasPrefix, Denom.ibcDenom, Denom.isNative]

/-- **The voucher can be sent back.**  `MsgTransfer` of a held voucher `Y` over the v1 channel `m.chan` it
    came over (`Y`'s first hop) succeeds — it is not refused for any denomination reason — whenever the
    general send conditions hold (sending enabled, sender decodable and not blocked, positive covered
    amount, non-blank sender / receiver, core IBC commits the packet); it burns exactly that amount and
    emits a packet carrying `Y`'s path to the counterparty end. -/
theorem voucher_send_back_accepted (cfg : Config) (c : Nat) (ch : Chain) (m : MsgTransfer) (seq : Nat) (Y : Denom)
    (s : Addr) (dc : Nat) (did : Str)
    (hse : ch.sendEnabled = true) (hs : cfg.decode m.sender = some s) (hbl : isBlockedAddr cfg c s = false)
    (hamt : m.amount ≠ unbounded) (hpos : m.amount ≠ 0)
    (htok : tokenFromCoin cfg ch m.denom = .ok Y) (hY : GoodDenom Y) (hYv : Y.validate = none)
    (hpre : Y.hasPrefix transferPort m.chan = true)
    (hnb1 : goBlank m.sender = false) (hnb2 : goBlank m.receiver = false)
    (hv1 : cfg.hasChannel c m.port m.chan = true) (hal : m.alias = false)
    (hpeer : cfg.peer c m.chan = some (dc, did))
    (hf : m.amount ≤ ch.bank.bal s (Y.ibcDenom cfg.hashHex)) (hsup : m.amount ≤ ch.bank.supply (Y.ibcDenom cfg.hashHex))
    (hsdk : sdkValidDenom (Y.ibcDenom cfg.hashHex) = true) :
    ∃ ch' p, transfer cfg c ch m none seq = .ok (ch', p) ∧ p.data.denom = Y.path ∧ p.data.amount = m.amount ∧
      p.dstChain = dc ∧ p.dstChan = did ∧
      ch'.bank.supply (Y.ibcDenom cfg.hashHex) + m.amount = ch.bank.supply (Y.ibcDenom cfg.hashHex) :=
  transfer_voucher_home_succeeds hse hs hbl hamt hpos htok hY hYv hpre hnb1 hnb2 hv1 hal hpeer hf hsup hsdk

/-- … and `TokenFromCoin` does resolve the voucher's coin denomination to the stored voucher: the store
    is keyed by the hash of the full path (C34) and the hash is printed as 64 upper-case hex digits. -/
theorem stored_voucher_is_found (cfg : Config) (ch : Chain) (Y : Denom)
    (hk : (ch.denoms.map fun x => cfg.hashHex x.path).Nodup) (hmem : Y ∈ ch.denoms)
    (hfmt : validHexHash (cfg.hashHex Y.path) = true)
    (hup : (cfg.hashHex Y.path).map Char.toUpper = cfg.hashHex Y.path) :
    tokenFromCoin cfg ch ("ibc/".toList ++ cfg.hashHex Y.path) = .ok Y :=
  tokenFromCoin_of_stored hk hmem hfmt hup

/-- **On arrival the origin releases the original token from that channel's escrow.**
    In any world reached by a lifecycle-respecting history (`Inv`, `EscInv`): let `q` be a packet that
    chain `B` sent over `cB` carrying the voucher `transfer/cB/X` of a token `X` for which `A` is the source
    over `cA` (`(A, cA)` and `(B, cB)` are counterparty ends), and let core IBC deliver it (`Guard`: sent,
    not yet received, not timed out).  If `A` has receiving enabled and the receiver is a decodable,
    unblocked address, then the receive SUCCEEDS — the escrow account provably holds the amount — and
    credits the receiver with exactly the packet amount of the coin of `X` (the native coin itself when
    `X` is native), taken out of the escrow account of `cA`; no supply changes. -/
theorem return_leg_releases_original (cfg : Config) (ha : Assm cfg) (ends : Nat → List Str) (he : EndsOK cfg ends)
    (w : World) (hw : Inv cfg w) (hesc : EscInv cfg ends w)
    (A : Nat) (cA : Str) (B : Nat) (cB : Str) (X : Denom)
    (hpeer : cfg.peer A cA = some (B, cB)) (hX : GoodDenom X) (hsrc : X.hasPrefix transferPort cA = false)
    (q : Packet) (hg : Guard w (.recv q))
    (hq : q.srcChain = B ∧ q.srcChan = cB ∧ q.data.denom = (Denom.mk (⟨transferPort, cB⟩ :: X.trace) X.base).path)
    (hv2 : q.v2 = true → isValidClientID q.srcChan = true ∧ isValidClientID q.dstChan = true)
    (hre : (w.chains A).recvEnabled = true) (r : Addr) (hr : cfg.decode q.data.receiver = some r)
    (hb : isBlockedAddr cfg A r = false) (hsdk : sdkValidDenom (X.ibcDenom cfg.hashHex) = true) :
    (step cfg w (.recv q)).2 = .recvd .success ∧
    (((step cfg w (.recv q)).1).chains A).bank.bal r (X.ibcDenom cfg.hashHex) =
      (w.chains A).bank.bal r (X.ibcDenom cfg.hashHex) + q.data.amount ∧
    (((step cfg w (.recv q)).1).chains A).bank.bal (cfg.escrowAddr transferPort cA) (X.ibcDenom cfg.hashHex) + q.data.amount =
      (w.chains A).bank.bal (cfg.escrowAddr transferPort cA) (X.ibcDenom cfg.hashHex) ∧
    (((step cfg w (.recv q)).1).chains A).bank.supply = (w.chains A).bank.supply := by
  obtain ⟨hwi, -, hpi, hc⟩ := hw
  obtain ⟨hqs, hnr, hnt⟩ := hg
  obtain ⟨-, -, hsp, hdp, hpp, hval⟩ := hwi.sent q hqs
  -- `q` runs from `(B, cB)` to its peer `(A, cA)`
  obtain ⟨rfl, rfl, hqd⟩ := hq
  have hdst := (ha.peerSym _ _ _ _ hpeer).symm.trans hpp
  simp only [Option.some.injEq, Prod.mk.injEq] at hdst
  obtain ⟨rfl, rfl⟩ := hdst
  have htok : extract q.data.denom = ⟨hop q.srcChan :: X.trace, X.base⟩ := by
    rw [hqd]; exact (good_peer_cons ha hpeer hX).stable
  have hpre : (extract q.data.denom).hasPrefix q.srcPort q.srcChan = true := by
    rw [htok, hsp]; simp [hop, Denom.hasPrefix]
  have hcoin : ics20RecvCoinDenom cfg.hashHex q.srcPort q.srcChan q.dstPort q.dstChan q.data.denom = X.ibcDenom cfg.hashHex := by
    rw [recvCoin_unwind hpre, htok]; rfl
  -- the amount is in flight, hence in escrow
  have hle := le_pendingSum hqs (sel := selB q.srcChain q.srcChan X) (by simp [selB, hqd, hop])
    (by simp [pending, pendingIn, hnr, hnt])
  have hn : q.data.amount ≤ (w.chains q.dstChain).bank.bal (cfg.escrowAddr transferPort q.dstChan) (X.ibcDenom cfg.hashHex) := by
    have := hc _ _ _ _ X hpeer hX hsrc
    simp only [coin] at this
    omega
  have hte : q.data.amount ≤ (w.chains q.dstChain).totalEscrow (X.ibcDenom cfg.hashHex) :=
    Nat.le_trans hn ((hesc q.dstChain).le_total (he.covers _ _ _ _ hpeer) _)
  obtain ⟨ch', hon⟩ := onRecvPacket_unwind_succeeds (sp := q.srcPort) (dp := q.dstPort) hval hre hr hb
    (by rw [hcoin]; exact hsdk) hpre (by rw [hcoin, hdp]; exact hn) (by rw [hcoin]; exact hte)
  have hrecv : recvPacket cfg q.dstChain (w.chains q.dstChain) q = .ok (ch', .success) := by
    unfold recvPacket
    cases hq2 : q.v2 with
    | false => simp [hon]
    | true =>
      rw [hsp, hdp] at hon ⊢
      simp [hv2 hq2, hon]
  obtain ⟨r', hr', -, -, -, ⟨-, -, -, -, hbal, hsup, -⟩ | ⟨hpF, -⟩⟩ := onRecvPacket_effect hon
  · obtain rfl : r' = r := Option.some.inj (hr'.symm.trans hr)
    have hrne : NotEscrow cfg r' := (hpi q hqs).2 r' hr
    simp only [step, hrecv, World.setChain, if_true]
    rw [hcoin, hdp] at hbal
    refine ⟨trivial, ?_, ?_, hsup⟩
    · simp [hbal, moveBal, hrne _ _]
    · have := moveBal_add (t := r') hn (cfg.escrowAddr transferPort q.dstChan) (X.ibcDenom cfg.hashHex)
      rw [if_pos ⟨rfl, rfl⟩, if_neg hrne.cond] at this
      rw [hbal]
      omega
  · rw [hpre] at hpF; cases hpF

end IbcVerif.C33
