/-
  C40 — Callbacks are gas-bounded and cannot break the packet lifecycle.
  Model: IbcVerif/Model/Callbacks.lean.

  The contract behind the ContractKeeper interface is a parameter (`Contract`): any gas consumption,
  any of {return nil, return an error, panic}, and it may or may not swallow its own out-of-gas panic.
  `Failed c exec` is the property's "errors, panics or runs out of gas".
-/
import IbcVerif.Model.Callbacks
import IbcVerif.Lemmas.Callbacks
namespace IbcVerif.C40
open IbcVerif.Callbacks

/-- the callback errors, panics or runs out of gas (on a meter limited to `exec`) -/
def Failed (c : Contract) (exec : Nat) : Prop := c.gas > exec ∨ c.out ≠ .ok

/-- `computeExecAndCommitGasLimit`: commit = user limit, replaced by the chain maximum when 0 or above
    it; exec = min(remaining, commit). -/
theorem gas_limits (user remaining max : Nat) :
    (gasLimits user remaining max).2 = (if user = 0 ∨ user > max then max else user) ∧
    (gasLimits user remaining max).1 = min remaining (gasLimits user remaining max).2 ∧
    (gasLimits user remaining max).2 ≤ max ∧
    (gasLimits user remaining max).1 ≤ remaining ∧
    (gasLimits user remaining max).1 ≤ (gasLimits user remaining max).2 := by
  simp only [gasLimits]
  refine ⟨trivial, trivial, ?_, Nat.min_le_left _ _, Nat.min_le_right _ _⟩
  split <;> omega

/-- The gas charged to the caller for a callback never exceeds the execution limit, hence never the
    smaller of the remaining gas and the user limit capped at the chain maximum; in particular the
    caller's own meter cannot be driven past its limit by the charge. -/
theorem callback_gas_bounded (t : CbType) (user remaining max : Nat) (c : Contract) :
    let (exec, commit) := gasLimits user remaining max
    (processCallback t exec commit c).charged ≤ exec ∧
    (processCallback t exec commit c).charged ≤ remaining ∧
    (processCallback t exec commit c).charged ≤ (if user = 0 ∨ user > max then max else user) := by
  simp only [processCallback_charged]
  have h := gas_limits user remaining max
  refine ⟨Nat.min_le_right _ _, Nat.le_trans (Nat.min_le_right _ _) h.2.2.2.1, ?_⟩
  rw [← h.1]
  exact Nat.le_trans (Nat.min_le_right _ _) h.2.2.2.2

/-- **Outcome matrix of `ProcessCallback`** for contracts that let the out-of-gas panic propagate:
    a total function of (callback type, behaviour ∈ {ok, err, panic, out-of-gas}, retry = exec < commit). -/
theorem process_callback_matrix (t : CbType) (exec commit : Nat) (c : Contract) (hc : c.catchOog = none) :
    let o := processCallback t exec commit c
    -- success within the limit: result ok, writes kept
    (c.gas ≤ exec → c.out = .ok → o.result = .ok ∧ o.wrote = true) ∧
    -- the contract returns an error: returned as is, writes discarded
    (c.gas ≤ exec → c.out = .err → o.result = .errCallback ∧ o.wrote = false) ∧
    -- the contract panics: re-raised for send callbacks, ErrCallbackPanic otherwise; writes discarded
    (c.gas ≤ exec → c.out = .panic → o.result = (if t = .send then .panic else .errPanic) ∧ o.wrote = false) ∧
    -- out of gas: send callbacks re-raise; otherwise abort iff exec < commit, else ErrCallbackOutOfGas
    (c.gas > exec → o.wrote = false ∧
      o.result = (if t = .send then .panicOog else if exec < commit then .panicOog else .errOog)) := by
  refine ⟨fun h1 h2 => ?_, fun h1 h2 => ?_, fun h1 h2 => ?_, fun h1 => ?_⟩
  · simp [processCallback_within h1, h2]
  · simp [processCallback_within h1, h2]
  · simp [processCallback_within h1, h2]
  · rw [processCallback_past h1]
    by_cases ht : t = .send <;> simp [ht, hc]

/-- A source acknowledgement / timeout callback never blocks the packet outcome: whenever the
    application accepted the ack / timeout and the packet carries well-formed callback data, the handler
    returns nil — for EVERY contract — except in the one case the property allows: the callback ran out
    of gas although the relayer supplied less than the committed limit, where the whole transaction
    aborts so that it can be retried. -/
theorem source_cb_never_blocks (t : CbType) (user remaining max : Nat) (c : Contract) :
    let o := onAckOrTimeout t false (.valid user) remaining max c
    let exec := (gasLimits user remaining max).1
    let commit := (gasLimits user remaining max).2
    (o.result = .ok ∨ o.result = .aborted) ∧
    (t ≠ .send → (o.result = .aborted ↔ (c.gas > exec ∧ exec < commit))) := by
  exact withCb_logged t user remaining max c

/-- … and the failed callback's own state changes are discarded — for EVERY contract, including one
    that swallows its own out-of-gas panic and returns nil (before fix 7bc25b2 that contract kept
    its writes: `writeFn()` ran before the past-limit check). -/
theorem source_cb_discards (t : CbType) (user remaining max : Nat) (c : Contract)
    (hf : Failed c (gasLimits user remaining max).1) :
    (onAckOrTimeout t false (.valid user) remaining max c).cbWrote = false ∧
    (onWriteAck false (.valid user) remaining max c).cbWrote = false := by
  have h : ¬ (c.gas ≤ (gasLimits user remaining max).1 ∧ c.out = .ok) := fun h => succeeded_iff_not_failed.mp h hf
  simp only [onAckOrTimeout_valid, onWriteAck_valid, ← Bool.not_eq_true, withCb_wrote]
  exact ⟨h, h⟩

/-- Conversely a callback's writes are kept exactly when it succeeded within its gas limit. -/
theorem cb_writes_kept_iff_success (t : CbType) (exec commit : Nat) (c : Contract) :
    (processCallback t exec commit c).wrote = true ↔ (c.gas ≤ exec ∧ c.out = .ok) := by
  exact processCallback_wrote t exec commit c

/-- The contract that kept its writes before /repo 7bc25b2: ack callback, user limit 1000, the contract
    writes, consumes 1001, swallows the out-of-gas panic and returns nil.  The handler returns nil with
    ErrCallbackOutOfGas logged, and the contract's writes are discarded (`cbWrote = false`). -/
theorem swallowed_oog_witness_now_discarded :
    onAckOrTimeout .ack false (.valid 1000) 500000 1000000 ⟨1001, .ok, some .ok⟩ =
      ⟨.ok, true, false, 1000, some .errOog⟩ := by
  decide +kernel

/-- Out of gas with less gas than the committed limit aborts the transaction at every entry point,
    for every contract (even one that swallows the panic). -/
theorem oog_with_retry_aborts (user remaining max : Nat) (c : Contract)
    (hg : c.gas > (gasLimits user remaining max).1)
    (hr : (gasLimits user remaining max).1 < (gasLimits user remaining max).2) :
    (onAckOrTimeout .ack false (.valid user) remaining max c).result = .aborted ∧
    (onAckOrTimeout .timeout false (.valid user) remaining max c).result = .aborted ∧
    (onSend false (.valid user) remaining max c).result = .aborted ∧
    (onRecv .success (.valid user) remaining max c).result = .aborted ∧
    (onWriteAck false (.valid user) remaining max c).result = .aborted := by
  simp only [onAckOrTimeout_valid, onSend_valid, onRecv_valid, onWriteAck_valid]
  refine ⟨?_, ?_, ?_, ?_, ?_⟩ <;> exact withCb_aborted_of_retry _ hg hr

/-- A send callback decides the send: the send is accepted iff the callback succeeded within its
    gas limit; any failure rejects it (error) or aborts the transaction (panic propagates). -/
theorem send_cb_failure_rejects (user remaining max : Nat) (c : Contract) :
    let o := onSend false (.valid user) remaining max c
    (o.result = .ok ↔ ¬ Failed c (gasLimits user remaining max).1) ∧
    (o.result = .ok ∨ o.result = .err ∨ o.result = .aborted) ∧
    (c.catchOog = none → c.gas ≤ (gasLimits user remaining max).1 → c.out = .panic → o.result = .aborted) := by
  rw [onSend_valid]
  refine ⟨(withCb_decides (by decide) (by decide)).trans succeeded_iff_not_failed, ?_, fun _ h2 h3 => ?_⟩
  · simp only [withCb]
    split
    · simp
    · split <;> simp
  · simp [withCb, processCallback_within h2, h3, PcResult.isPanic]

/-- A destination callback that fails turns the (successful) receive into an error acknowledgement —
    so by C09 no application state change survives — unless the retry condition aborts the
    transaction; a successful callback leaves the success acknowledgement untouched.  A receive the
    application already failed or deferred never reaches the contract. -/
theorem dest_cb_failure_is_error_ack (user remaining max : Nat) (c : Contract) :
    let o := onRecv .success (.valid user) remaining max c
    let exec := (gasLimits user remaining max).1
    let commit := (gasLimits user remaining max).2
    (o.result = .ack .success ↔ ¬ Failed c exec) ∧
    (Failed c exec → ¬ (c.gas > exec ∧ exec < commit) → o.result = .ack .error) ∧
    (∀ cb, (onRecv .error cb remaining max c) = noCb (.ack .error)) ∧
    (∀ cb, (onRecv .async cb remaining max c) = noCb (.ack .async)) := by
  rw [onRecv_valid]
  refine ⟨(withCb_decides (by decide) (by decide)).trans succeeded_iff_not_failed,
    fun hf hr => ?_, fun cb => rfl, fun cb => rfl⟩
  simp only [withCb]
  rw [if_neg fun h => hr ((processCallback_isPanic (by decide) ..).mp h),
    if_neg fun h => succeeded_iff_not_failed.mp ((processCallback_ok ..).mp h) hf]

/-- The destination callback made when an asynchronous acknowledgement is written (the fifth callback
    site) cannot fail the write either: nil unless the retry condition aborts. -/
theorem async_ack_cb_never_blocks (user remaining max : Nat) (c : Contract) :
    let o := onWriteAck false (.valid user) remaining max c
    (o.result = .ok ∨ o.result = .aborted) ∧
    (o.result = .aborted ↔ (c.gas > (gasLimits user remaining max).1 ∧
      (gasLimits user remaining max).1 < (gasLimits user remaining max).2)) := by
  have h := withCb_logged .recv user remaining max c
  exact ⟨h.1, h.2 (by decide)⟩

/-- No callback data, or an application that rejected the ack / timeout / send: the contract is never
    called and nothing is charged. -/
theorem no_callback_without_request (t : CbType) (remaining max : Nat) (c : Contract) (cb : CbData) :
    (onAckOrTimeout t true cb remaining max c).cbCalled = false ∧
    (onAckOrTimeout t false .none remaining max c) = noCb .ok ∧
    (onSend true cb remaining max c).cbCalled = false ∧
    (onSend false .none remaining max c) = noCb .ok ∧
    (onRecv .success .none remaining max c) = noCb (.ack .success) := by
  simp [onAckOrTimeout, onSend, onRecv, noCb]

/-- non-vacuity: concrete rows of the matrix (user limit 50 000, chain max 10^6).
    plenty of gas: error → ack stands, writes dropped; out of gas → ack stands (ErrCallbackOutOfGas);
    only 30 000 remaining (< commit): out of gas aborts; the same failing contract on receive gives an
    error acknowledgement. -/
example :
    (onAckOrTimeout .ack false (.valid 50000) 800000 1000000 ⟨10, .err, none⟩) = ⟨.ok, true, false, 10, some .errCallback⟩ ∧
    (onAckOrTimeout .timeout false (.valid 50000) 800000 1000000 ⟨50001, .ok, none⟩) = ⟨.ok, true, false, 50000, some .errOog⟩ ∧
    (onAckOrTimeout .ack false (.valid 50000) 30000 1000000 ⟨30001, .ok, none⟩) = ⟨.aborted, true, false, 30000, some .panicOog⟩ ∧
    (onRecv .success (.valid 50000) 800000 1000000 ⟨10, .panic, none⟩) = ⟨.ack .error, true, false, 10, some .errPanic⟩ ∧
    (onSend false (.valid 50000) 800000 1000000 ⟨10, .ok, none⟩) = ⟨.ok, true, true, 10, some .ok⟩ := by
  decide +kernel

end IbcVerif.C40
