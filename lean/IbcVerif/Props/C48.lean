/-
  C48 — Port routing is unambiguous and order-independent.
-/
import IbcVerif.Lemmas.Router
import IbcVerif.Lemmas.Except
namespace IbcVerif.C48
open IbcVerif.Router

/-! ### v1 (05-port): exact match, else the least registered name that is a substring -/

/-- characterisation of the v1 lookup that mentions only *membership* in the route set -/
theorem v1_route_spec (R : List Name) (port k : Name) :
    routeV1 R port = some k ↔
      (port ∈ R ∧ k = port) ∨
      (port ∉ R ∧ k ∈ R ∧ contains port k = true ∧ ∀ k' ∈ R, contains port k' = true → lexLe k k' = true) := by
  unfold routeV1 keysV1
  by_cases hin : port ∈ R
  · simp only [List.contains_iff_mem, hin, if_true, Option.some.injEq, true_and, not_true_eq_false, false_and, or_false]
    exact eq_comm
  · simp only [List.contains_iff_mem, hin, if_false, false_and, not_false_eq_true, true_and, false_or]
    rw [find_sorted_iff lexLe lexLe_refl lexLe_antisymm _ _
      (List.pairwise_mergeSort (le := lexLe) lexLe_trans (fun a b => lexLe_total a b) R)]
    simp only [List.mem_mergeSort]

/-- every port resolves to at most one module, independent of registration order -/
theorem v1_route_perm_invariant (R₁ R₂ : List Name) (port : Name) (h : R₁.Perm R₂) :
    routeV1 R₁ port = routeV1 R₂ port := by
  apply Option.ext
  intro k
  rw [v1_route_spec, v1_route_spec]
  simp only [h.mem_iff]

/-- `AddRoute` succeeds exactly when the name is alphanumeric, new, and not covered by a prefix -/
theorem v2_addRoute_iff (r r' : RouterV2) (port : Name) :
    addRoute r port = some r' ↔
      isAlnum port = true ∧ port ∉ r.routes ∧ (∀ p ∈ r.prefixes, p.isPrefixOf port = false) ∧
      r' = { r with routes := port :: r.routes } := by
  simp only [addRoute, ite_eq_iff_of_ne (a := none) (r := some r') nofun, Bool.not_eq_true', Bool.not_eq_false, Bool.not_eq_true, List.contains_iff_mem,
    List.any_eq_false, Option.some.injEq, eq_comm (a := r')]

/-- `AddPrefixRoute` succeeds exactly when the prefix is alphanumeric, is not a prefix of any direct
    route, and is prefix-incomparable with every registered prefix -/
theorem v2_addPrefix_iff (r r' : RouterV2) (pre : Name) :
    addPrefix r pre = some r' ↔
      isAlnum pre = true ∧ (∀ port ∈ r.routes, pre.isPrefixOf port = false) ∧
      (∀ p ∈ r.prefixes, p.isPrefixOf pre = false ∧ pre.isPrefixOf p = false) ∧
      r' = { r with prefixes := pre :: r.prefixes } := by
  simp only [addPrefix, ite_eq_iff_of_ne (a := none) (r := some r') nofun, Bool.not_eq_true', Bool.not_eq_false, Bool.not_eq_true,
    List.any_eq_false, Bool.or_eq_true, not_or, Option.some.injEq, eq_comm (a := r')]

theorem addRoute_preserves (r r' : RouterV2) (port : Name) (h : PrefixFree r) (ha : addRoute r port = some r') :
    PrefixFree r' := by
  obtain ⟨_, h2, h3, rfl⟩ := (v2_addRoute_iff r r' port).mp ha
  obtain ⟨n1, n2, pp, pr⟩ := h
  refine ⟨List.nodup_cons.mpr ⟨h2, n1⟩, n2, pp, ?_⟩
  intro p hp x hx
  rcases List.mem_cons.mp hx with rfl | hx'
  · exact h3 p hp
  · exact pr p hp x hx'

theorem addPrefix_preserves (r r' : RouterV2) (pre : Name) (h : PrefixFree r) (ha : addPrefix r pre = some r') :
    PrefixFree r' := by
  obtain ⟨_, h2, h3, rfl⟩ := (v2_addPrefix_iff r r' pre).mp ha
  obtain ⟨n1, n2, pp, pr⟩ := h
  have hnot : pre ∉ r.prefixes := fun hm =>
    absurd (List.isPrefixOf_iff_prefix.mpr (List.prefix_refl pre)) (by rw [(h3 pre hm).1]; decide)
  refine ⟨n1, List.nodup_cons.mpr ⟨hnot, n2⟩, ?_, ?_⟩
  · intro p hp q hq hpq
    rcases List.mem_cons.mp hp with rfl | hp' <;> rcases List.mem_cons.mp hq with rfl | hq'
    · rfl
    · rw [(h3 q hq').2] at hpq; cases hpq
    · rw [(h3 p hp').1] at hpq; cases hpq
    · exact pp p hp' q hq' hpq
  · intro p hp x hx
    rcases List.mem_cons.mp hp with rfl | hp'
    · exact h2 x hx
    · exact pr p hp' x hx

/-- after ANY sequence of registrations that did not panic, in ANY order, the router is prefix-free -/
theorem v2_invariant (ops : List OpV2) : ∀ (r0 r : RouterV2), PrefixFree r0 → applyOps r0 ops = some r → PrefixFree r := by
  induction ops with
  | nil => intro r0 r h0 h; simp only [applyOps, Option.some.injEq] at h; exact h ▸ h0
  | cons op ops ih =>
    intro r0 r h0 h
    cases op <;> simp only [applyOps, Option.bind_eq_some_iff] at h <;> obtain ⟨r1, ha, h⟩ := h
    · exact ih r1 r (addRoute_preserves r0 r1 _ h0 ha) h
    · exact ih r1 r (addPrefix_preserves r0 r1 _ h0 ha) h

theorem empty_prefixFree : PrefixFree RouterV2.empty := by
  simp [PrefixFree, RouterV2.empty]

/-- in a prefix-free router at most one prefix matches a port, and none matches a direct route -/
theorem v2_unique_match (r : RouterV2) (h : PrefixFree r) (port p q : Name) (hp : p ∈ r.prefixes) (hq : q ∈ r.prefixes)
    (mp : p.isPrefixOf port = true) (mq : q.isPrefixOf port = true) : p = q := by
  rcases prefix_comparable p q port mp mq with c | c
  · exact h.2.2.1 p hp q hq c
  · exact (h.2.2.1 q hq p hp c).symm

/-- hence the lookup does not depend on Go's map iteration order -/
theorem v2_route_order_independent (r : RouterV2) (h : PrefixFree r) (o₁ o₂ : List Name)
    (h₁ : o₁.Perm r.prefixes) (h₂ : o₂.Perm r.prefixes) (port : Name) :
    getRouteWith r o₁ port = getRouteWith r o₂ port := by
  have hu := fun x hx y hy => v2_unique_match r h port x y hx hy
  unfold getRouteWith
  rw [find?_perm_of_unique _ hu h₁, find?_perm_of_unique _ hu h₂]

/-- end-to-end: whatever order the application registered its routes in, and whatever order Go
    iterates the maps in, every port resolves to the same (at most one) module -/
theorem v2_unambiguous (ops : List OpV2) (r : RouterV2) (hr : applyOps RouterV2.empty ops = some r)
    (o₁ o₂ : List Name) (h₁ : o₁.Perm r.prefixes) (h₂ : o₂.Perm r.prefixes) (port : Name) :
    getRouteWith r o₁ port = getRouteWith r o₂ port :=
  v2_route_order_independent r (v2_invariant ops _ r empty_prefixFree hr) o₁ o₂ h₁ h₂ port

/-- non-vacuity: a registration sequence that succeeds, and one that is refused as ambiguous -/
example : (applyOps RouterV2.empty [.route [97], .pre [98], .route [97, 98]]).isSome = true := by decide +kernel
example : applyOps RouterV2.empty [.pre [97], .route [97, 98]] = none := by decide +kernel
example : applyOps RouterV2.empty [.route [97, 98], .pre [97]] = none := by decide +kernel

end IbcVerif.C48
