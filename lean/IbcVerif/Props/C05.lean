/-
  C05 — Receipt only of proven, unaltered, unexpired counterparty packets.

  `Relay.recvV1` / `Relay.recvV2` (Model/Relay.lean) are the receive transactions of IBC v1 / v2 as
  functions of the facts the handlers read, guard by guard in the order of the code; the `world`
  engine (group `relay`) replays every generated receive attempt — valid messages and every
  single-field / random two-field mutation of them, at several channel / connection / client states,
  with real IAVL proofs at chosen heights — against the model on every run.  The proof enters as
  ground truth about the counterparty's store (`ProofFacts`), not as an opaque bit, so the theorems
  below speak about what the counterparty *really stored*.

  `H` is the hash (SHA-256 in the driver); binding statements are in collision-extraction form (C07)
  and use key injectivity (C16).

  The "a failed receive changes no state" half of the property is a statement about the chain state,
  not about the verdict: it is proved on the L3 chain model (Model/Chain.lean, `recv … ≠ success →
  state' = state`, chain cluster) and monitored here on the real chains (store diff of the IBC store
  and of the application store around every failed or NOOP transaction).
-/
import IbcVerif.Lemmas.Relay
import IbcVerif.Lemmas.Height
import IbcVerif.Props.C04
import IbcVerif.Props.C07
import IbcVerif.Props.C16
namespace IbcVerif.C05
open IbcVerif IbcVerif.Relay IbcVerif.Commit

variable (H : Bytes → Bytes)

/-- the destination channel end and its connection are OPEN and the packet comes from the channel's
    counterparty -/
def ChannelOpenFromCounterpartyV1 (f : RecvV1) (ch : ChanEnd) (cn : ConnEnd) : Prop :=
  f.chan = some ch ∧ f.conn = some cn ∧ ch.state = STATE_OPEN ∧ cn.state = STATE_OPEN ∧
  f.pkt.srcPort = ch.cpPort ∧ f.pkt.srcChan = ch.cpChan

/-- replay protection lets the packet through as a *new* packet -/
def FreshV1 (f : RecvV1) (ch : ChanEnd) : Prop :=
  ¬ f.pkt.seq.toNat < f.recvStart ∧
  ((ch.ordering = ORDER_UNORDERED ∧ f.receipt = false) ∨
   (ch.ordering = ORDER_ORDERED ∧ f.nextRecv = some f.pkt.seq.toNat))

/-- replay protection recognises the packet as already received -/
def AlreadyReceivedV1 (f : RecvV1) (ch : ChanEnd) : Prop :=
  ¬ f.pkt.seq.toNat < f.recvStart ∧
  ((ch.ordering = ORDER_UNORDERED ∧ f.receipt = true) ∨
   (ch.ordering = ORDER_ORDERED ∧ ∃ n, f.nextRecv = some n ∧ f.pkt.seq.toNat < n))

/-- everything a v1 receive checks before replay protection: a well-formed, correctly signed message
    for a routable port; channel and connection OPEN and the packet from their counterparty; the
    chain's own height and time strictly before the timeout; the client Active with a consensus state
    at the proof height and the delay periods passed; and the counterparty's store holding, at the
    proof height, exactly `CommitPacket(packet)` under exactly
    `PacketCommitmentKey(sourcePort, sourceChannel, sequence)` in the store the connection names as the
    counterparty's prefix -/
def ProvenUnexpiredV1 (f : RecvV1) (ch : ChanEnd) (cn : ConnEnd) : Prop :=
  f.proofEmpty = false ∧ f.env.signerOK = true ∧ f.pkt.basic = none ∧ f.env.sigOK = true ∧ f.route = true ∧
  ChannelOpenFromCounterpartyV1 f ch cn ∧
  f.pkt.timeout.elapsed f.env.self (UInt64.ofNat f.env.nowNs) = false ∧
  cn.cpPrefix ≠ [] ∧
  ClientReady f.env f.client f.proof cn.delay (Delay.getBlockDelay cn.delay f.maxTimePerBlock) ∧
  f.proof.proves (pathV1 cn.cpPrefix f.key) (commitV1 H f.pkt.committed) = true

/-- **v1 success.**  A receive transaction succeeds (receipt / nextSequenceRecv written, application
    called) exactly when the explicit conjunction holds. -/
theorem recv_v1_success_iff (f : RecvV1) :
    recvV1 H f = .ok ↔ ∃ ch cn, ProvenUnexpiredV1 H f ch cn ∧ FreshV1 f ch := by
  simp only [recvV1, openGate_eq ok_passes, check_eq ok_passes, pass_eq ok_passes, verifyV1_none_iff, replayV1_ok,
    Bool.not_eq_true', decide_eq_true_eq, ProvenUnexpiredV1, ChannelOpenFromCounterpartyV1, FreshV1, and_assoc,
    exists_and_left]

/-- **v1 NOOP.**  "Already received" is answered with a NOOP only for a message that would otherwise
    have been accepted — in particular only if its proof still verifies (replay protection runs after
    `VerifyPacketCommitment`). -/
theorem recv_v1_noop_iff (f : RecvV1) :
    recvV1 H f = .noop ↔ ∃ ch cn, ProvenUnexpiredV1 H f ch cn ∧ AlreadyReceivedV1 f ch := by
  simp only [recvV1, openGate_eq noop_passes, check_eq noop_passes, pass_eq noop_passes, verifyV1_none_iff,
    replayV1_noop, Bool.not_eq_true', decide_eq_true_eq, ProvenUnexpiredV1, ChannelOpenFromCounterpartyV1,
    AlreadyReceivedV1, and_assoc, exists_and_left]

/-- everything a v2 receive checks before the receipt lookup -/
def UnexpiredFromCounterpartyV2 (f : RecvV2) (cp : CpV2) : Prop :=
  f.proofEmpty = false ∧ f.env.signerOK = true ∧ f.pkt.basic = none ∧ f.env.sigOK = true ∧ f.relayerAllowed = true ∧
  f.cp = some cp ∧ cp.clientId = f.pkt.srcClient ∧
  nowSecs f.env < f.pkt.timeout.toNat

/-- **v2 success.**  Counterparty registered for the destination client and equal to the packet's source
    client, current time (seconds) strictly before the timeout, no receipt yet, client Active with a
    consensus state at the proof height, and the counterparty's store holding exactly
    `CommitPacket(packet)` under `PacketCommitmentKey(sourceClient, sequence)` behind the registered
    merkle prefix. -/
theorem recv_v2_success_iff (f : RecvV2) :
    recvV2 H f = .ok ↔ ∃ cp,
      UnexpiredFromCounterpartyV2 f cp ∧ f.receipt = false ∧ ClientReady f.env f.client f.proof 0 0 ∧
      f.proof.proves (pathV2 cp.pre f.key) (commitV2 H f.pkt.committed) = true := by
  simp only [recvV2, check_eq ok_passes, need_eq ok_passes, pass_eq ok_passes, ite_noop_ok, verifyMembership_none_iff, Bool.not_eq_true',
    Bool.not_eq_true, decide_eq_true_eq, UnexpiredFromCounterpartyV2, and_true, and_assoc, exists_and_left]

/-- **v2 NOOP.**  In v2 the receipt lookup comes *before* proof verification: an already received
    packet is answered NOOP for any (even unverifiable) proof, as long as the message is well-formed,
    from the registered counterparty and unexpired.  (No state is written and no callback runs.) -/
theorem recv_v2_noop_iff (f : RecvV2) :
    recvV2 H f = .noop ↔ ∃ cp, UnexpiredFromCounterpartyV2 f cp ∧ f.receipt = true := by
  simp only [recvV2, check_eq noop_passes, need_eq noop_passes, pass_eq noop_passes, ite_noop_noop, reduceCtorEq, and_false, or_false,
    Bool.not_eq_true', decide_eq_true_eq, UnexpiredFromCounterpartyV2, and_assoc, exists_and_left]

/-- **unexpired (v1).**  A received packet's timeout height (if set) is strictly above the chain's own
    height and its timeout timestamp (if set) strictly after the chain's own block time. -/
theorem recv_v1_unexpired (f : RecvV1) (h : recvV1 H f = .ok) :
    (f.pkt.timeout.height.isZero = true ∨
      ¬ (f.env.self.rev.toNat > f.pkt.timeout.height.rev.toNat ∨
         (f.env.self.rev.toNat = f.pkt.timeout.height.rev.toNat ∧ f.env.self.h.toNat ≥ f.pkt.timeout.height.h.toNat))) ∧
    (f.pkt.timeout.ts = 0 ∨ (UInt64.ofNat f.env.nowNs) < f.pkt.timeout.ts) := by
  obtain ⟨ch, cn, hp, _⟩ := (recv_v1_success_iff H f).mp h
  have he := hp.2.2.2.2.2.2.1
  simp only [Timeout.elapsed, Timeout.heightElapsed, Timeout.timestampElapsed, Bool.or_eq_false_iff,
    Bool.and_eq_false_iff, Bool.not_eq_false', bne_eq_false_iff_eq, decide_eq_false_iff_not] at he
  exact ⟨he.1.imp_right fun hg => by rw [← Height.gte_iff]; simp [hg],
    he.2.imp_right fun hg => by simpa [UInt64.not_le] using hg⟩

/-- **what a successful v1 receive proves.**  The counterparty's store (the one the connection names),
    at the proof height, holds under *exactly* `PacketCommitmentKey(sourcePort, sourceChannel, sequence)`
    *exactly* `CommitPacket(packet)`, read from an uncorrupted proof built for that height. -/
theorem recv_v1_proven (f : RecvV1) (h : recvV1 H f = .ok) :
    f.proof.intact = true ∧ f.proof.builtAt = f.proof.height ∧
    (∃ cn, f.conn = some cn ∧ f.proof.store = cn.cpPrefix) ∧
    f.proof.readKey = Keys.v1Key .commitment f.pkt.srcPort f.pkt.srcChan f.pkt.seq.toNat ∧
    f.proof.provenValue = some (commitV1 H f.pkt.committed) := by
  obtain ⟨ch, cn, hp, _⟩ := (recv_v1_success_iff H f).mp h
  obtain ⟨a, b, c, d, e⟩ := (proves_v1_iff _ _ _ _).mp hp.2.2.2.2.2.2.2.2.2
  exact ⟨a, b, ⟨cn, hp.2.2.2.2.2.1.2.1, c⟩, d, e⟩

/-- **what a successful v2 receive proves**: with `l` the last element of the registered counterparty
    merkle prefix (empty in practice), the store holds `CommitPacket(packet)` under
    `l ++ PacketCommitmentKey(sourceClient, sequence)`. -/
theorem recv_v2_proven (f : RecvV2) (h : recvV2 H f = .ok) :
    f.proof.intact = true ∧ f.proof.builtAt = f.proof.height ∧
    (∃ cp l, f.cp = some cp ∧ cp.pre.getLast? = some l ∧
      f.proof.readKey = l ++ Keys.v2Key .commitment f.pkt.srcClient f.pkt.seq.toNat) ∧
    f.proof.provenValue = some (commitV2 H f.pkt.committed) := by
  obtain ⟨cp, hu, _, _, hp⟩ := (recv_v2_success_iff H f).mp h
  obtain ⟨a, b, c, d⟩ := (proves_iff _ _ _).mp hp
  obtain ⟨l, hl, hk⟩ := pathV2_key _ _ _ _ c
  exact ⟨a, b, ⟨cp, l, hu.2.2.2.2.2.1, hl, hk⟩, d⟩

variable (hlen : ∀ b, (H b).length = 32)
include hlen

/-- **recv_binds_packet (v1).**  Suppose the entry the proof was built from was written by the
    counterparty for *some* packet: stored under `PacketCommitmentKey(sp, sc, n)` with value
    `CommitPacket` of fields `q` (that is what `SendPacket` writes).  If the receive succeeds, then the
    received packet has exactly that source port, source channel and sequence (C16) and exactly that
    data, timeout height and timeout timestamp (C07) — or an explicit SHA-256 collision exists.
    Hence changing any of data, timeout, sequence or source identifiers of a receive message makes it
    fail unless the counterparty committed exactly the changed packet. -/
theorem recv_binds_packet_v1 (f : RecvV1) (h : recvV1 H f = .ok)
    (sp sc : Bytes) (n : Nat) (q : PacketV1) (hsp : Keys.IdOK sp) (hsc : Keys.IdOK sc) (hq : q.WF)
    (hkey : f.proof.readKey = Keys.v1Key .commitment sp sc n)
    (hval : f.proof.provenValue = some (commitV1 H q)) :
    (f.pkt.srcPort = sp ∧ f.pkt.srcChan = sc ∧ f.pkt.seq.toNat = n ∧ f.pkt.committed = q) ∨ Collision H := by
  obtain ⟨_, _, _, hk, hv⟩ := recv_v1_proven H f h
  obtain ⟨ch, cn, hp, _⟩ := (recv_v1_success_iff H f).mp h
  obtain ⟨i1, _, i3, _, _⟩ := pktV1_basic_none _ hp.2.2.1
  obtain ⟨_, e1, e2, e3⟩ := C16.v1_keys_injective _ _ _ _ _ _ _ _ i1 i3 hsp hsc (hk.symm.trans hkey)
  exact (C07.v1_commitment_binds H hlen _ _ (committedV1_WF _) hq (Option.some.inj (hv.symm.trans hval))).imp_left
    fun e => ⟨e1, e2, e3 rfl, e⟩

/-- **one proof, one packet (v1).**  Two receive messages carrying the same proof (same bytes, hence the
    same ground truth) cannot both succeed unless they agree on source port, source channel, sequence,
    data and timeout — whatever the chain state each of them meets. -/
theorem recv_v1_same_proof_same_packet (f g : RecvV1) (hp : f.proof = g.proof)
    (hf : recvV1 H f = .ok) (hg : recvV1 H g = .ok) :
    (f.pkt.srcPort = g.pkt.srcPort ∧ f.pkt.srcChan = g.pkt.srcChan ∧ f.pkt.seq = g.pkt.seq ∧
      f.pkt.data = g.pkt.data ∧ f.pkt.timeout = g.pkt.timeout) ∨ Collision H := by
  obtain ⟨_, _, _, hk, hv⟩ := recv_v1_proven H g hg
  obtain ⟨ch, cn, hpg, _⟩ := (recv_v1_success_iff H g).mp hg
  obtain ⟨i1, _, i3, _, _⟩ := pktV1_basic_none _ hpg.2.2.1
  rcases recv_binds_packet_v1 H hlen f hf g.pkt.srcPort g.pkt.srcChan g.pkt.seq.toNat g.pkt.committed i1 i3
    (committedV1_WF _) (hp ▸ hk) (hp ▸ hv) with ⟨e1, e2, e3, e4⟩ | c
  · obtain ⟨e5, e6⟩ := committedV1_inj _ _ e4
    exact Or.inl ⟨e1, e2, UInt64.toNat_inj.mp e3, e5, e6⟩
  · exact Or.inr c

/-- **recv_binds_packet (v2).**  If the entry the proof was built from was written by the counterparty
    under `PacketCommitmentKey(sc, n)` (behind the same prefix element `l`) with value `CommitPacket` of
    (destination client, timeout, payload list) `q`, a successful receive has exactly that source client
    and sequence (C16) and exactly that destination client, timeout and *whole ordered payload list*
    (C07), or a collision. -/
theorem recv_binds_packet_v2 (f : RecvV2) (h : recvV2 H f = .ok)
    (cp : CpV2) (l : Bytes) (hcp : f.cp = some cp) (hl : cp.pre.getLast? = some l)
    (sc : Bytes) (n : Nat) (q : PacketV2) (hn : n < 2^64) (hq : q.timeoutTs < 2^64)
    (hkey : f.proof.readKey = l ++ Keys.v2Key .commitment sc n)
    (hval : f.proof.provenValue = some (commitV2 H q)) :
    (f.pkt.srcClient = sc ∧ f.pkt.seq.toNat = n ∧ f.pkt.committed = q) ∨ Collision H := by
  obtain ⟨_, _, ⟨cp', l', hcp', hl', hk⟩, hv⟩ := recv_v2_proven H f h
  cases hcp.symm.trans hcp'
  cases hl.symm.trans hl'
  obtain ⟨_, e1, e2⟩ := C16.v2_keys_injective _ _ _ _ _ _ (UInt64.toNat_lt _) hn
    (List.append_cancel_left (hk.symm.trans hkey))
  exact (C07.v2_commitment_binds H hlen _ _ (UInt64.toNat_lt _) hq (Option.some.inj (hv.symm.trans hval))).imp_left
    fun e => ⟨e1, e2, e⟩

/-- **one proof, one packet (v2).**  Two receive messages carrying the same proof and meeting the same
    counterparty registration cannot both succeed unless they agree on every field. -/
theorem recv_v2_same_proof_same_packet (f g : RecvV2) (hp : f.proof = g.proof) (hc : f.cp = g.cp)
    (hf : recvV2 H f = .ok) (hg : recvV2 H g = .ok) :
    (f.pkt.srcClient = g.pkt.srcClient ∧ f.pkt.seq = g.pkt.seq ∧ f.pkt.dstClient = g.pkt.dstClient ∧
      f.pkt.timeout = g.pkt.timeout ∧ f.pkt.payloads = g.pkt.payloads) ∨ Collision H := by
  obtain ⟨_, _, ⟨cp, l, hcp, hl, hk⟩, hv⟩ := recv_v2_proven H g hg
  rcases recv_binds_packet_v2 H hlen f hf cp l (hc ▸ hcp) hl g.pkt.srcClient g.pkt.seq.toNat g.pkt.committed
    (UInt64.toNat_lt _) (UInt64.toNat_lt _) (hp ▸ hk) (hp ▸ hv) with ⟨e1, e2, e3⟩ | c
  · obtain ⟨e4, e5, e6⟩ := committedV2_inj _ _ e3
    exact Or.inl ⟨e1, UInt64.toNat_inj.mp e2, e4, e5, e6⟩
  · exact Or.inr c

omit hlen in
/-- **mutants fail.**  Take any receive message whose proof is honest for packet `q` sent on
    (`sp`, `sc`, `n`) — and alter the message (any fields, any chain state) so that its source
    identifiers, sequence, data or timeout differ from what was committed.  Unless SHA-256 collides,
    the altered message is not received: the verdict is an error (never `ok`, never `noop`). -/
theorem recv_v1_mutant_rejected (hlen : ∀ b, (H b).length = 32) (hnc : ¬ Collision H) (f : RecvV1)
    (sp sc : Bytes) (n : Nat) (q : PacketV1) (hsp : Keys.IdOK sp) (hsc : Keys.IdOK sc) (hq : q.WF)
    (hkey : f.proof.readKey = Keys.v1Key .commitment sp sc n)
    (hval : f.proof.provenValue = some (commitV1 H q))
    (hmut : ¬ (f.pkt.srcPort = sp ∧ f.pkt.srcChan = sc ∧ f.pkt.seq.toNat = n ∧ f.pkt.committed = q)) :
    ∃ e, recvV1 H f = .err e := by
  cases hv : recvV1 H f with
  | err e => exact ⟨e, rfl⟩
  | ok =>
    exact ((recv_binds_packet_v1 H hlen f hv sp sc n q hsp hsc hq hkey hval).elim hmut hnc).elim
  | noop =>
    -- had it been new, the same message would have been accepted: the binding theorem applies to that one
    obtain ⟨ch, cn, hp, hs, ho⟩ := (recv_v1_noop_iff H f).mp hv
    have hg : recvV1 H { f with receipt := false, nextRecv := some f.pkt.seq.toNat } = .ok :=
      (recv_v1_success_iff H _).mpr
        ⟨ch, cn, hp, hs, ho.imp (And.imp_right fun _ => rfl) (And.imp_right fun _ => rfl)⟩
    exact ((recv_binds_packet_v1 H hlen _ hg sp sc n q hsp hsc hq hkey hval).elim hmut hnc).elim

omit hlen in
/-- **the timeout guard is the one of C04.**  The guard the receive handler evaluates is exactly
    `World.recvGuardV1` / `World.recvGuardV2`, the receive-side guards of the two-chain timeout theorems
    (C04: a packet that passes this guard in some block can never be timed out on the sender, and vice
    versa) — so "unexpired" here and "never both received and timed out" there speak about the same check. -/
theorem recv_v1_guard_is_world_guard (f : RecvV1) (hnow : f.env.nowNs < 2^64) :
    (!f.pkt.timeout.elapsed f.env.self (UInt64.ofNat f.env.nowNs)) =
      World.recvGuardV1 (fun _ => f.env.nowNs)
        ⟨f.pkt.timeout.height.rev.toNat, f.pkt.timeout.height.h.toNat, f.pkt.timeout.ts.toNat⟩
        f.env.self.rev.toNat f.env.self.h.toNat := by
  have h := C04.elapsedNat_eq f.pkt.timeout.height f.pkt.timeout.ts f.env.self (UInt64.ofNat f.env.nowNs)
  have hn : (UInt64.ofNat f.env.nowNs).toNat = f.env.nowNs := by
    rw [UInt64.toNat_ofNat']
    exact Nat.mod_eq_of_lt hnow
  rw [hn] at h
  unfold World.recvGuardV1
  rw [← h]

omit hlen in
theorem recv_v2_guard_is_world_guard (f : RecvV2) :
    decide (nowSecs f.env < f.pkt.timeout.toNat) = World.recvGuardV2 (fun _ => f.env.nowNs) f.pkt.timeout.toNat 0 := rfl

omit hlen in
/-- **unexpired (v2).**  A received v2 packet's timeout (seconds) is strictly after the chain's own block
    time in whole seconds. -/
theorem recv_v2_unexpired (f : RecvV2) (h : recvV2 H f = .ok) : f.env.nowNs / 1000000000 < f.pkt.timeout.toNat := by
  obtain ⟨cp, hu, _⟩ := (recv_v2_success_iff H f).mp h
  exact hu.2.2.2.2.2.2.2

omit hlen in
/-- **mutants fail (v2).**  If the proof is honest for the packet `q` sent from client `sc` with sequence
    `n` and the message differs from that in source client, sequence, destination client, timeout or
    anywhere in the payload list, it is not received (never `ok`) unless SHA-256 collides.  (Once the
    packet *has* been received, v2 answers NOOP without looking at the proof — nothing is written.) -/
theorem recv_v2_mutant_not_received (hlen : ∀ b, (H b).length = 32) (hnc : ¬ Collision H) (f : RecvV2)
    (cp : CpV2) (l : Bytes) (hcp : f.cp = some cp) (hl : cp.pre.getLast? = some l)
    (sc : Bytes) (n : Nat) (q : PacketV2) (hn : n < 2^64) (hq : q.timeoutTs < 2^64)
    (hkey : f.proof.readKey = l ++ Keys.v2Key .commitment sc n)
    (hval : f.proof.provenValue = some (commitV2 H q))
    (hmut : ¬ (f.pkt.srcClient = sc ∧ f.pkt.seq.toNat = n ∧ f.pkt.committed = q)) :
    recvV2 H f ≠ .ok :=
  fun h => (recv_binds_packet_v2 H hlen f h cp l hcp hl sc n q hn hq hkey hval).elim hmut hnc

omit hlen in
/-- non-vacuity: a concrete UNORDERED receive that succeeds, the same message when the receipt exists
    (NOOP), the same message with one data byte changed against the same proof (rejected by the
    proof), and the same message once the chain has reached the timeout height (rejected as expired) -/
example :
    let mock := strBytes "mock".toList
    let c0 := strBytes "channel-0".toList
    let c1 := strBytes "channel-1".toList
    let pkt : PktV1 := ⟨1, mock, c0, mock, c1, [1, 2, 3], ⟨⟨1, 100⟩, 0⟩⟩
    let S : Bytes → Bytes := fun b => (b ++ List.replicate 32 0).take 32   -- a toy 32-byte "hash"
    let ibc := strBytes "ibc".toList
    let prf : ProofFacts := ⟨⟨1, 55⟩, ⟨1, 55⟩, true, ibc, Keys.v1Key .commitment mock c0 1, some (commitV1 S pkt.committed)⟩
    let cl : ClientFacts := ⟨true, ⟨1, 60⟩, none, none, true, true⟩
    let f : Bool → PktV1 → Height → RecvV1 := fun rc p self =>
      ⟨p, false, ⟨true, true, self, 1000⟩, true, some ⟨3, 1, mock, c0⟩, some ⟨3, 0, ibc⟩, cl, prf, 30000000000, 0, rc, none⟩
    recvV1 S (f false pkt ⟨1, 50⟩) = .ok ∧ recvV1 S (f true pkt ⟨1, 50⟩) = .noop ∧
      recvV1 S (f false { pkt with data := [1, 2, 4] } ⟨1, 50⟩) = .err .proof ∧
      recvV1 S (f false pkt ⟨1, 100⟩) = .err .timeout := by
  decide +kernel

end IbcVerif.C05
