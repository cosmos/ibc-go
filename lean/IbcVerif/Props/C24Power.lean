/-
  C24, voting-power part — a hand model of CometBFT's light verification (IbcVerif/Model/TmLight.lean)
  over symbolic signatures, and what acceptance by it implies: more than 2/3 of the header's own
  validator set and more than the trust level of the trusted set really signed, within trusting period
  and clock drift.  Property theorems only.  The model is of library code (not ibc-go's) and is tied to
  the real library by the `power` correspondence group; `C24.verifyHeader_accepts_iff` is independent of it.
-/
import IbcVerif.Model.TmLight
import IbcVerif.Lemmas.TmClient
namespace IbcVerif.C24Power
open IbcVerif IbcVerif.Tm IbcVerif.Tm.Light

/-- the scan accepts only if the validly signing power (added to the starting tally) exceeds `needed` -/
theorem scan_sound (needed : Nat) : ∀ (es : List Entry) (t : Nat), scan needed es t = true → needed < t + validPower es
  | [], _, h => by simp [scan] at h
  | .skip :: r, t, h => scan_sound needed r t h
  | .fail :: r, t, h => by simp [scan] at h
  | .count p ok :: r, t, h => by
    cases ok with
    | false => simp [scan] at h
    | true =>
      simp only [scan, Bool.not_true, Bool.false_eq_true, ↓reduceIte] at h
      by_cases c : t + p > needed
      · simp only [validPower]; omega
      · simp only [c, ↓reduceIte] at h
        have := scan_sound needed r (t + p) h
        simp only [validPower]; omega

/-- **More than 2/3 of the header's own validator set**: `VerifyCommitLight` accepts only if the validators
    whose signatures verify hold strictly more than two thirds of the total power -/
theorem own_set_two_thirds (total : Nat) (es : List Entry) (h : verifyCommitLight total es = true) :
    3 * validPower es > 2 * total := by
  have := scan_sound (total * 2 / 3) es 0 h
  have d := Nat.div_add_mod (total * 2) 3
  have m := Nat.mod_lt (total * 2) (show 3 > 0 by decide)
  omega

/-- **At least the trust level of the trusted set** (in fact strictly more): `VerifyCommitLightTrusting`
    accepts only if `validPower / total > num / den` -/
theorem trusted_set_trust_level (total num den : Nat) (es : List Entry)
    (h : verifyCommitLightTrusting total num den es = true) :
    validPower es * den > total * num := by
  unfold verifyCommitLightTrusting at h
  by_cases hd : den = 0
  · simp [hd] at h
  · simp only [hd, ↓reduceIte] at h
    have := scan_sound (total * num / den) es 0 h
    calc total * num < den * (total * num / den + 1) := Nat.lt_mul_div_succ _ (Nat.pos_of_ne_zero hd)
      _ ≤ den * validPower es := Nat.mul_le_mul_left den (by omega)
      _ = validPower es * den := Nat.mul_comm ..

/-- completeness on honest commits: if no entry is malformed, every signature for the block verifies and
    the signing power exceeds `needed`, the scan accepts -/
theorem scan_complete (needed : Nat) : ∀ (es : List Entry) (t : Nat), t ≤ needed →
    (∀ e ∈ es, e ≠ .fail ∧ ∀ p, e ≠ .count p false) → needed < t + validPower es → scan needed es t = true
  | [], t, ht, _, h => by simp [validPower] at h; omega
  | .skip :: r, t, ht, hall, h => scan_complete needed r t ht (fun e he => hall e (List.mem_cons_of_mem _ he)) h
  | .fail :: r, t, _, hall, _ => absurd rfl (hall .fail List.mem_cons_self).1
  | .count p ok :: r, t, ht, hall, h => by
    cases ok with
    | false => exact absurd rfl ((hall (.count p false) List.mem_cons_self).2 p)
    | true =>
      simp only [scan, Bool.not_true, Bool.false_eq_true, ↓reduceIte]
      by_cases c : t + p > needed
      · simp [c]
      · simp only [c, ↓reduceIte]
        exact scan_complete needed r (t + p) (by omega) (fun e he => hall e (List.mem_cons_of_mem _ he))
          (by simp only [validPower] at h; omega)

/-- if no signature for the block verifies — e.g. because a signed field, the chain id or the validator
    key was altered, so the sign bytes differ from what was signed — nothing is accepted -/
theorem forged_rejected (needed : Nat) : ∀ (es : List Entry) (t : Nat),
    (∀ e ∈ es, ∀ p, e ≠ .count p true) → scan needed es t = false
  | [], _, _ => rfl
  | .skip :: r, t, h => forged_rejected needed r t (fun e he => h e (List.mem_cons_of_mem _ he))
  | .fail :: r, t, _ => rfl
  | .count p ok :: r, t, h => by
    cases ok with
    | false => simp [scan]
    | true => exact absurd rfl (h (.count p true) List.mem_cons_self p)

/-- symbolic layer: in the own-set resolution a signature counts as valid only if it was produced by that
    validator's key over exactly the sign bytes the verifier computes -/
theorem ownEntry_valid_iff (v : Val) (m : Nat) (c : CSig) (p : Nat) :
    ownEntry v m c = .count p true ↔ ∃ msg, c = .commit v.addr v.addr msg ∧ msg = m ∧ p = v.power := by
  cases c with
  | absent => simp [ownEntry]
  | nilVote a => simp [ownEntry]
  | commit a s msg =>
    unfold ownEntry
    by_cases ha : a = v.addr
    · subst ha
      simp only [ne_eq, not_true_eq_false, ↓reduceIte, Entry.count.injEq, decide_eq_true_eq, CSig.commit.injEq, true_and]
      constructor
      · rintro ⟨hp, hs, hm⟩; exact ⟨msg, ⟨hs, rfl⟩, hm, hp.symm⟩
      · rintro ⟨msg', ⟨hs, hm'⟩, hm, hp⟩; exact ⟨hp.symm, hs, by rw [hm']; exact hm⟩
    · simp [ha]

/-- mutating any signed field changes the sign bytes of every index: if each commit signature was made
    over bytes different from the ones now computed, the own-set verification fails -/
theorem signed_field_mutation_rejected (total : Nat) : ∀ (vals : List Val) (ms : List Nat) (cs : List CSig),
    (∀ (i a s msg : Nat), cs[i]? = some (CSig.commit a s msg) → ms[i]? ≠ some msg) →
    verifyCommitLight total (ownEntries vals ms cs) = false := by
  intro vals ms cs h
  refine forged_rejected _ _ _ fun e he p heq => ?_
  subst heq
  induction vals generalizing ms cs with
  | nil => simp [ownEntries] at he
  | cons v vs ih =>
    match ms, cs with
    | [], _ => simp [ownEntries] at he
    | _ :: _, [] => simp [ownEntries] at he
    | m :: ms', c :: cs' =>
      simp only [ownEntries, List.mem_cons] at he
      rcases he with e | he
      · obtain ⟨msg, hc, hm', _⟩ := (ownEntry_valid_iff v m c p).mp e.symm
        have := h 0 v.addr v.addr msg (by simp [hc])
        simp [hm'] at this
      · exact ih ms' cs' (fun i a s msg hi => by simpa using h (i + 1) a s msg (by simpa using hi)) he

/-- **`light.Verify` accepts only if** the trusted state is within the trusting period, the new header
    is later than the trusted one and not beyond the clock drift, it is above the trusted height, it is
    well formed for the trusted chain id, more than 2/3 of its own validator set signed, and — adjacent:
    its validator set is the trusted next set; non-adjacent: more than the trust level of the trusted
    set signed. -/
theorem lightVerify_sound (i : LvIn) (h : lightVerify i = true) :
    i.now < i.trustedTs + i.tp ∧ i.trustedTs < i.untrustedTs ∧ i.untrustedTs < i.now + i.drift ∧
    i.trustedH < i.untrustedH ∧ i.basicOK = true ∧ i.valsHashOK = true ∧
    3 * validPower i.own > 2 * i.ownTotal ∧
    (if i.untrustedH = i.trustedH + 1 then i.nextValsMatch = true
     else validPower i.trust * i.tlDen > i.trustTotal * i.tlNum) := by
  unfold lightVerify at h
  have ⟨h1, h2, h3, h4⟩ : headerExpired i = false ∧ verifyNewHeaderAndVals i = true ∧
      (if i.untrustedH = i.trustedH + 1 then i.nextValsMatch = true
       else verifyCommitLightTrusting i.trustTotal i.tlNum i.tlDen i.trust = true) ∧
      verifyCommitLight i.ownTotal i.own = true := by
    -- either branch of `light.Verify` is a chain of three guards in front of `VerifyCommitLight`
    by_cases adj : i.untrustedH = i.trustedH + 1 <;>
      simp only [adj, ne_eq, not_true_eq_false, not_false_eq_true, ↓reduceIte, ite_eq_iff_of_ne Bool.false_ne_true,
        Bool.not_eq_true, Bool.not_eq_false'] at h ⊢ <;>
      exact h
  simp only [headerExpired, gt_iff_lt, Bool.not_eq_eq_eq_not, Bool.not_false, decide_eq_true_eq] at h1
  simp only [verifyNewHeaderAndVals, gt_iff_lt, Bool.and_eq_true, decide_eq_true_eq] at h2
  obtain ⟨⟨⟨⟨a, b⟩, c⟩, d⟩, e⟩ := h2
  refine ⟨h1, c, d, b, a, e, own_set_two_thirds _ _ h4, ?_⟩
  split
  · exact (if_pos ‹_›).mp h3
  · exact trusted_set_trust_level _ _ _ _ ((if_neg ‹_›).mp h3)

/-- composition with ibc-go's own checks (C24.verifyHeader_accepts_iff): a header accepted by
    `verifyHeader`, when the library verdict is the modelled `light.Verify`, satisfies all conditions of
    the property at once -/
theorem header_accepted_fully (s : Store) (hdr : Header) (i : LvIn) (h : verifyHeader s hdr (lightVerify i) = none) :
    (∃ c, s.getCons hdr.trusted = some c ∧ hdr.tvals = some c.nvh) ∧ hdr.height.rev = hdr.trusted.rev ∧
    hk hdr.trusted < hk hdr.height ∧
    i.now < i.trustedTs + i.tp ∧ i.untrustedTs < i.now + i.drift ∧ i.trustedTs < i.untrustedTs ∧
    3 * validPower i.own > 2 * i.ownTotal ∧
    (i.untrustedH ≠ i.trustedH + 1 → validPower i.trust * i.tlDen > i.trustTotal * i.tlNum) := by
  obtain ⟨c, h1, h2, h3, _, h5, h6⟩ := (verifyHeader_none_iff s hdr (lightVerify i)).mp h
  obtain ⟨l1, l2, l3, _, _, _, l7, l8⟩ := lightVerify_sound i h6
  exact ⟨⟨c, h1, h2⟩, h3, h5, l1, l3, l2, l7, fun na => by simpa [na] using l8⟩

/-! ### non-vacuity: powers 5,4,3,2,1 (total 15, needed 10): {5,4} = 9 is not enough, {5,4,3} = 12 is;
     a corrupted signature before the threshold rejects, after it is never looked at -/

example : verifyCommitLight 15 [.count 5 true, .count 4 true, .skip, .skip, .skip] = false ∧
    verifyCommitLight 15 [.count 5 true, .count 4 true, .count 3 true, .skip, .skip] = true ∧
    verifyCommitLight 15 [.count 5 true, .count 4 false, .count 3 true, .count 2 true, .count 1 true] = false ∧
    verifyCommitLight 15 [.count 5 true, .count 4 true, .count 3 true, .count 2 false, .count 1 true] = true ∧
    verifyCommitLightTrusting 15 1 3 [.count 5 true, .skip] = false ∧
    verifyCommitLightTrusting 15 1 3 [.skip, .count 4 true, .count 2 true] = true := by decide +kernel

end IbcVerif.C24Power
