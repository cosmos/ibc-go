/-
  C32 — Failed transfers refund exactly the sent amount, exactly once.
  Property theorems only; helper lemmas live in IbcVerif/Lemmas/Ics20*.lean.

  Model: `Ics20.step` (Model/Ics20.lean): `Transfer` / `SendTransfer`, `refundPacketTokens`, the v1 and v2
  acknowledgement and timeout callbacks.  "Exactly once" is stated over all histories that respect the
  packet lifecycle (`LifecycleOK`, Lemmas/Ics20Lifecycle.lean — the guarantees of C01/C03/C04/C06 as a
  named hypothesis).  "Restores the pre-send state" is stated as a frame law: the refund's effect is
  the exact inverse of the send's effect, whatever other packets did in between.

  Before fix 4b2f809 the refund of a native coin shaped like a voucher path minted a voucher instead
  (the refund re-parses the packet's path); since the fix `Transfer` rejects such coins, so the token
  the refund re-parses is the token that was sent (`sent_token_is_reparsed_token`).
-/
import IbcVerif.Model.Ics20
import IbcVerif.Lemmas.Denom
import IbcVerif.Lemmas.Ics20
import IbcVerif.Lemmas.Ics20Step
import IbcVerif.Lemmas.Ics20Lifecycle
namespace IbcVerif.C32
open IbcVerif IbcVerif.Xfer IbcVerif.Ics20

/-- the refunding callbacks for packet `p`: timeout (by `MsgTimeout` or `MsgTimeoutOnClose`), v1 error
    acknowledgement, v2 sentinel -/
def IsRefundOf (p : Packet) : Op → Prop
  | .timeout q _ => q = p
  | .ack q a => q = p ∧ (a = .error ∨ a = .sentinel)
  | _ => False

/-- every denomination recorded in the store re-parses to itself (holds along all lifecycle-respecting
    histories, `Ics20.storeStable_run`) -/
def StoreStable (ch : Chain) : Prop := ∀ d ∈ ch.denoms, PathStable d

/-- **The refund sees the token that was sent.**  For a packet produced by `Transfer`, re-parsing the
    packet's denomination path yields the token `SendTransfer` debited (v1: the token from
    `TokenFromCoin`, whose base passed `ValidateBaseNotHopLike`; v2: the re-parsed token itself). -/
theorem sent_token_is_reparsed_token {cfg : Config} {c : Nat} {ch ch' : Chain} {m : MsgTransfer}
    {ce : Option String} {seq : Nat} {p : Packet} (hstore : StoreStable ch)
    (h : transfer cfg c ch m ce seq = .ok (ch', p)) :
    ∃ s, cfg.decode p.data.sender = some s ∧ p.srcChain = c ∧ p.srcPort = transferPort ∧
      sendTransfer cfg c ch p.srcPort p.srcChan (extract p.data.denom) p.data.amount s = .ok ch' := by
  obtain ⟨s, n, tok, hs, _, htok, hhf, _, hdata, hc, hsp, hsc, _, _, _, hst⟩ := transfer_ok h
  refine ⟨s, by rw [hdata]; exact hs, hc, hsp, ?_⟩
  rw [hdata, hsp, hsc]
  simp only
  rcases hst with ⟨_, hst⟩ | ⟨_, _, hst⟩
  · have hstable : PathStable tok := by
      rcases tokenFromCoin_ok htok with ⟨_, rfl⟩ | hmem
      · exact pathStable_of_hopFree _ nofun nofun hhf
      · exact hstore tok hmem
    rw [hstable]; exact hst
  · exact hst

/-- **Exact refund (frame law).**  Let a `MsgTransfer` send packet `p` from world `w` (giving `w₁`), and
    let any refunding callback for `p` — timeout, v1 error acknowledgement or v2 sentinel — complete
    later in an arbitrary world `w₂` (giving `w₃`).  Then on the sending chain the refund changes
    every balance, every supply and every tracked escrow total by exactly the opposite of what the
    send changed; other chains are untouched.  Hence if nothing else touched an entry in between, it
    is back at its pre-send value — for native and voucher denominations, v1, alias and v2. -/
theorem refund_restores (cfg : Config) (w w₁ w₂ w₃ : World) (c : Nat) (signer : Str) (viaTx : Bool)
    (m : MsgTransfer) (ce : Option String) (seq : Nat) (p : Packet) (op : Op)
    (hstore : StoreStable (w.chains c))
    (hsend : step cfg w (.transfer c signer viaTx m ce seq) = (w₁, .sent p))
    (hop : IsRefundOf p op) (hrefund : step cfg w₂ op = (w₃, .ok)) :
    (∀ a x, (w₃.chains c).bank.bal a x + (w₁.chains c).bank.bal a x =
            (w₂.chains c).bank.bal a x + (w.chains c).bank.bal a x) ∧
    (∀ x, (w₃.chains c).bank.supply x + (w₁.chains c).bank.supply x =
          (w₂.chains c).bank.supply x + (w.chains c).bank.supply x) ∧
    (∀ x, (w₃.chains c).totalEscrow x + (w₁.chains c).totalEscrow x =
          (w₂.chains c).totalEscrow x + (w.chains c).totalEscrow x) ∧
    (∀ c', c' ≠ c → w₃.chains c' = w₂.chains c') := by
  obtain ⟨_, ch1, ht, hw1⟩ := step_transfer_sent hsend
  obtain ⟨s, hs, hc, hsp, hst⟩ := sent_token_is_reparsed_token hstore ht
  subst hc
  -- the refund ran `refundPacketTokens` on the sending chain
  obtain ⟨ch3, hr, hw3⟩ := step_refund_ok hop hrefund
  simp only [hw3, hw1, setChain_same]
  obtain ⟨hb, hsup, hte⟩ := refund_inverts_send hs hst hr
  exact ⟨hb, hsup, hte, fun c' hc' => setChain_other _ _ _ _ hc'⟩

/-- **The sender gets exactly the sent amount back.**  The refund credits the packet's original sender
    (decoded from the packet data) with exactly `p.data.amount` of the denomination that was debited
    (when the sender is not itself the escrow account of the channel). -/
theorem refund_credits_sender (cfg : Config) (w₂ w₃ : World) (p : Packet) (op : Op)
    (hop : IsRefundOf p op) (hrefund : step cfg w₂ op = (w₃, .ok)) :
    ∃ s, cfg.decode p.data.sender = some s ∧
      (s ≠ cfg.escrowAddr p.srcPort p.srcChan →
        (w₃.chains p.srcChain).bank.bal s ((extract p.data.denom).ibcDenom cfg.hashHex) =
        (w₂.chains p.srcChain).bank.bal s ((extract p.data.denom).ibcDenom cfg.hashHex) + p.data.amount) := by
  obtain ⟨ch3, hr, hw3⟩ := step_refund_ok hop hrefund
  obtain ⟨s, hs, _, _, _, hb⟩ := refund_effect hr
  refine ⟨s, hs, fun hne => ?_⟩
  rw [hw3, setChain_same]
  rcases hb with ⟨_, hb3, _, _⟩ | ⟨_, _, _, hb3, _, _⟩
  · rw [hb3]; simp
  · rw [hb3]; simp [moveBal, hne]

/-- **Timeout-on-close is the same refund.**  `MsgTimeoutOnClose` (v1) reaches the very same
    `OnTimeoutPacket` callback as `MsgTimeout`; only core IBC's admission differs (`Guard`: the packet was
    never received — C03/C14 — and has no other terminal outcome).  So `refund_restores`,
    `refund_credits_sender` and `refund_at_most_once` cover it (`IsRefundOf` and `refundCount` do not
    look at the `onClose` flag). -/
theorem timeout_on_close_same_callback (cfg : Config) (w : World) (p : Packet) :
    step cfg w (.timeout p true) = step cfg w (.timeout p false) := rfl

/-- **Exactly once.**  Along every history that respects the packet lifecycle, at most one refunding
    callback completes for any packet. -/
theorem refund_at_most_once (cfg : Config) (w : World) (ops : List Op) (p : Packet)
    (h : LifecycleOK cfg w ops) : refundCount cfg p w ops ≤ 1 :=
  refundCount_le_one cfg p ops w h

/-- **A success acknowledgement changes nothing** on the sending chain (or anywhere else). -/
theorem success_ack_no_change (cfg : Config) (w : World) (p : Packet) :
    (step cfg w (.ack p .result)).1.chains = w.chains := by
  rcases step_ack_cases cfg w p .result with ⟨ch', hak, hstep⟩ | ⟨hsame, _⟩
  · rw [hstep]
    rcases ackPacket_ok hak with ⟨_, rfl⟩ | ⟨ha, _⟩
    · exact funext (setChain_congr id rfl)
    · rcases ha with ha | ha <;> cases ha
  · rw [hsame]

/-- **v2 acknowledgement decoding.**  For a v2 packet: the sentinel error acknowledgement is handled
    exactly like a timeout (refund); a custom JSON error acknowledgement, a non-canonical result and
    undecodable bytes are all rejected (the transaction fails, nothing changes). -/
theorem v2_ack_decoding (cfg : Config) (c : Nat) (ch : Chain) (p : Packet) (hv2 : p.v2 = true) :
    ackPacket cfg c ch p .sentinel = timeoutPacket cfg c ch p ∧
    (∃ e, ackPacket cfg c ch p .error = .error e) ∧
    (∃ e, ackPacket cfg c ch p .resultNonCanon = .error e) ∧
    (∃ e, ackPacket cfg c ch p .garbage = .error e) := by
  refine ⟨?_, ⟨.err "ibc/8", by simp [ackPacket, hv2]⟩, ⟨.err "ibc/12", by simp [ackPacket, hv2]⟩,
    ⟨.err "ibc/4", by simp [ackPacket, hv2]⟩⟩
  simp [ackPacket, timeoutPacket, hv2]

/-- v1: an error acknowledgement is handled exactly like a timeout; the v2 sentinel and undecodable
    bytes are rejected. -/
theorem v1_ack_decoding (cfg : Config) (c : Nat) (ch : Chain) (p : Packet) (hv1 : p.v2 = false) :
    ackPacket cfg c ch p .error = timeoutPacket cfg c ch p ∧
    (∃ e, ackPacket cfg c ch p .sentinel = .error e) ∧
    (∃ e, ackPacket cfg c ch p .garbage = .error e) := by
  refine ⟨?_, ⟨.err "ibc/4", by simp [ackPacket, hv1]⟩, ⟨.err "ibc/4", by simp [ackPacket, hv1]⟩⟩
  simp only [ackPacket, timeoutPacket, hv1, Bool.false_eq_true, if_false]

/-- a failed refund (blocked or undecodable sender, escrow short) fails the whole transaction: the
    world is unchanged and the packet is not marked resolved, so the refund can be retried -/
theorem failed_refund_changes_nothing (cfg : Config) (w : World) (p : Packet) (oc : Bool)
    (h : (step cfg w (.timeout p oc)).2 ≠ .ok) : (step cfg w (.timeout p oc)).1 = w := by
  rcases step_timeout_cases cfg w p oc with ⟨ch', _, hstep⟩ | ⟨hsame, _⟩
  · rw [hstep] at h; exact absurd rfl h
  · exact hsame

/-- non-vacuity: send 5 `uatom`, time the packet out: the sender is back at 10 and the escrow at 0. -/
example :
    let cfg : Config :=
      { hashHex := (fun s => s)
        decode := (fun s => some s)
        blocked := (fun _ _ => false)
        moduleAddr := "module".toList
        escrowAddr := (fun p c => "esc:".toList ++ p ++ c)
        peer := (fun _ _ => some (1, "channel-1".toList))
        hasChannel := (fun _ _ _ => true) }
    let ch : Chain := ⟨⟨fun a d => if a = "u".toList ∧ d = "uatom".toList then 10 else 0, fun _ => 10⟩, fun _ => 0, [], true, true⟩
    let w : World := ⟨fun _ => ch, [], [], [], []⟩
    let m : MsgTransfer := ⟨"transfer".toList, "channel-0".toList, "uatom".toList, 5, "u".toList, "v".toList, [], false, []⟩
    let p : Packet := ⟨0, "transfer".toList, "channel-0".toList, 1, "transfer".toList, "channel-1".toList, 1, false,
      ⟨"uatom".toList, 5, "u".toList, "v".toList, []⟩⟩
    let w₁ := (step cfg w (.transfer 0 "u".toList true m none 1)).1
    let w₃ := (step cfg w₁ (.timeout p true)).1
    (w₁.chains 0).bank.bal "u".toList "uatom".toList = 5 ∧
    (w₃.chains 0).bank.bal "u".toList "uatom".toList = 10 ∧
    (w₃.chains 0).bank.bal ("esc:".toList ++ "transfer".toList ++ "channel-0".toList) "uatom".toList = 0 ∧
    (w₃.chains 0).totalEscrow "uatom".toList = 0 := by
  decide +kernel

end IbcVerif.C32
