/-
  C03 — At most one terminal outcome per sent packet.

  `Event.ack1 port chan seq ack` / `Event.timeout1 port chan seq` are logged exactly when the sending
  application's OnAcknowledgementPacket / OnTimeoutPacket ran in a committed transaction (the msg
  server calls them AFTER writeFn(); a callback error fails the tx, which the SDK reverts — then
  `step` returns the original state and nothing is logged).  `Event.ack2` / `Event.timeout2` are the
  per-packet v2 events (all payload callbacks of that packet ran, once each).
  All proof verdicts are adversarial inputs: the theorems hold even if every proof verifies.
-/
import IbcVerif.Lemmas.ChainInv2
import IbcVerif.Lemmas.ChainExamples
namespace IbcVerif.C03
open IbcVerif IbcVerif.Chain

/-- v1: over any history, for every packet (source port, channel, sequence) the sending application
    saw at most ONE of {acknowledgement, timeout (incl. timeout-on-close)}, at most once. -/
theorem terminal_at_most_once_v1 (ops : List Op) (port chan : Id) (seq : Nat) :
    ((run init ops).log.filter (Event.isTerm1 port chan seq)).length ≤ 1 :=
  (inv_run_init ops).term1Count port chan seq

/-- v2 (clients and aliases): the same per (source id, sequence). -/
theorem terminal_at_most_once_v2 (ops : List Op) (src : Id) (seq : Nat) :
    ((run init ops).log.filter (Event.isTerm2 src seq)).length ≤ 1 :=
  (inv_run_init ops).term2Count src seq

/-- after the terminal outcome the commitment is gone — and stays gone for the rest of the history:
    the sequence is below the send counter, which is never reset, so no later send can re-create it. -/
theorem terminal_clears_commitment_v1 (ops : List Op) (port chan : Id) (seq : Nat) (e : Event)
    (he : e ∈ (run init ops).log) (ht : e.isTerm1 port chan seq = true) :
    (run init ops).commitV1.get (port, chan, seq) = none ∧
    ∃ n, (run init ops).nextSend.get chan = some n ∧ seq < n :=
  let h := (inv_run_init ops).term1 port chan seq e he ht
  ⟨h.1, h.2.1⟩

theorem terminal_clears_commitment_v2 (ops : List Op) (src : Id) (seq : Nat) (e : Event)
    (he : e ∈ (run init ops).log) (ht : e.isTerm2 src seq = true) :
    (run init ops).commitV2.get (src, seq) = none ∧
    ∃ n, (run init ops).nextSend.get src = some n ∧ seq < n :=
  let h := (inv_run_init ops).term2 src seq e he ht
  ⟨h.1, h.2.1⟩

/-- once the commitment is gone, any further acknowledgement relay for that packet is a NOOP (or an
    error from an earlier check): never a success, state and log unchanged — for every proof verdict. -/
theorem after_terminal_ack_v1 (s : ChainState) (env : Env) (p : PacketV1) (ack : Hex) (app : AppV1)
    (hgone : s.commitV1.get (p.sp, p.sc, p.seq) = none) :
    (step s ⟨env, .ackV1 p ack app⟩).2.isOk = false ∧ (step s ⟨env, .ackV1 p ack app⟩).1 = s := by
  refine not_ok_unchanged fun s' r hstep => ?_
  obtain ⟨s1, h1, _⟩ := (ackV1_cases hstep).ok rfl
  obtain ⟨_, _, _, hc, _⟩ := acknowledgePacketV1_ok h1
  rw [hgone] at hc; cases hc

theorem after_terminal_timeout_v1 (s : ChainState) (env : Env) (p : PacketV1) (nsr a b : Nat) (app : AppV1)
    (hgone : s.commitV1.get (p.sp, p.sc, p.seq) = none) :
    (step s ⟨env, .timeoutV1 p nsr a b app⟩).2.isOk = false ∧ (step s ⟨env, .timeoutV1 p nsr a b app⟩).1 = s := by
  refine not_ok_unchanged fun s' r hstep => ?_
  obtain ⟨s1, h1, _⟩ := (timeoutV1_cases hstep).ok rfl
  obtain ⟨_, _, hc, _⟩ := timeoutPacketV1_ok h1
  rw [hgone] at hc; cases hc

theorem after_terminal_timeoutOnClose_v1 (s : ChainState) (env : Env) (p : PacketV1) (nsr : Nat) (app : AppV1)
    (hgone : s.commitV1.get (p.sp, p.sc, p.seq) = none) :
    (step s ⟨env, .timeoutOnCloseV1 p nsr app⟩).2.isOk = false ∧ (step s ⟨env, .timeoutOnCloseV1 p nsr app⟩).1 = s := by
  refine not_ok_unchanged fun s' r hstep => ?_
  obtain ⟨s1, h1, _⟩ := (timeoutOnCloseV1_cases hstep).ok rfl
  obtain ⟨_, _, hc, _⟩ := timeoutOnCloseV1_ok h1
  rw [hgone] at hc; cases hc

theorem after_terminal_ack_v2 (s : ChainState) (env : Env) (p : PacketV2) (acks : List Hex) (apps : List AppV2)
    (hgone : s.commitV2.get (p.src, p.seq) = none) :
    (step s ⟨env, .ackV2 p acks apps⟩).2.isOk = false ∧ (step s ⟨env, .ackV2 p acks apps⟩).1 = s := by
  refine not_ok_unchanged fun s' r hstep => ?_
  obtain ⟨s1, _, _, h1, _⟩ := (ackV2_cases hstep).ok rfl
  obtain ⟨_, hc, _⟩ := acknowledgePacketV2_ok h1
  rw [hgone] at hc; cases hc

theorem after_terminal_timeout_v2 (s : ChainState) (env : Env) (p : PacketV2) (apps : List AppV2)
    (hgone : s.commitV2.get (p.src, p.seq) = none) :
    (step s ⟨env, .timeoutV2 p apps⟩).2.isOk = false ∧ (step s ⟨env, .timeoutV2 p apps⟩).1 = s := by
  refine not_ok_unchanged fun s' r hstep => ?_
  obtain ⟨s1, _, h1, _⟩ := (timeoutV2_cases hstep).ok rfl
  obtain ⟨_, hc, _⟩ := timeoutPacketV2_ok h1
  rw [hgone] at hc; cases hc

/-- a v1 commitment exists only for sequences the chain really allocated (below the send counter) on a
    channel that exists: nothing else can be acknowledged or timed out. -/
theorem commitment_only_for_sent (ops : List Op) (port chan : Id) (seq : Nat)
    (h : (run init ops).commitV1.get (port, chan, seq) ≠ none) :
    (∃ n, (run init ops).nextSend.get chan = some n ∧ seq < n) ∧ (run init ops).chan.get (port, chan) ≠ none :=
  (inv_run_init ops).commit1 port chan seq h

/-- non-vacuity of the invariant -/
example : Inv Chain.init := Inv.init

/-- non-vacuity: with no commitment the timeout-on-close relay reaches the NOOP branch -/
example : Ex.sOpen.commitV1.get ("mock", "channel-0", 1) = none := by decide +kernel

end IbcVerif.C03
