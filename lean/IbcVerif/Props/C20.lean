/-
  C20 — Tendermint consensus states are never overwritten.
  Property theorems only; the model is IbcVerif/Model/Tm*.lean, helper lemmas are in IbcVerif/Lemmas/Tm*.lean.

  Reading guide.  `World` = all 07-tendermint clients of one chain + block time/height; `step`/`run` execute
  keeper operations (`Op`: create, update hdr valid, misbehaviour, advance time, upgrade, recover,
  pruneAll, verify(Non)Membership).  `valid` — the verdict of CometBFT's `light.Verify` — and all header
  contents are universally quantified: the theorems hold for every adversarial choice of them.
  `WInv` is the world invariant (proved to hold in every reachable world, `reachable_winv`).
-/
import IbcVerif.Lemmas.TmHist
namespace IbcVerif.C20
open IbcVerif IbcVerif.Tm

/-- every world reachable from the empty chain satisfies the world invariant -/
theorem reachable_winv (ops : List Op) : WInv (run World.empty ops) :=
  run_winv ops World.empty winv_empty

/-- **Never overwritten, over all histories.** If client `cid` stores consensus state `c` at height `h`
    in a (reachable) world `w`, then after any further history `ops` the client stores either the very
    same `c` at `h` or nothing at `h` — and in the latter case `h` lies strictly below every height
    stored then, and every later insertion lands above a stored height, so `h` can never be filled again
    (this is what makes the statement inductive; see `Later`).
    `HistOK` holds for histories without the migration-only `pruneAll` (`histOK_without_pruneAll`) and
    for all update histories (`never_overwritten_update_histories`). -/
theorem cons_never_overwritten (w : World) (hw : WInv w) (ops : List Op) (hok : HistOK w ops) (cid : Nat) :
    Later (w.client cid) ((run w ops).client cid) :=
  later_run cid (w.client cid) (hw.stores cid) ops w hw hok (Later.refl _)

theorem cons_unchanged_or_removed (w : World) (hw : WInv w) (ops : List Op) (hok : HistOK w ops) (cid : Nat)
    (h : Height) (c : ConsState) (hc : (w.client cid).getCons h = some c) :
    ((run w ops).client cid).getCons h = some c ∨ ((run w ops).client cid).getCons h = none := by
  rcases (cons_never_overwritten w hw ops hok cid).kept h c hc with k | ⟨k, _⟩
  · exact Or.inl k
  · exact Or.inr k

/-- histories of updates (duplicates, conflicting headers, past heights), misbehaviour, time advances,
    upgrades and recoveries — everything except the migration entry point — satisfy `HistOK` -/
theorem histOK_without_pruneAll (w : World) (ops : List Op) (h : ∀ op ∈ ops, op.isPruneAll = false) : HistOK w ops :=
  histOK_of_no_pruneAll ops w h

/-- the property's own quantifier ("all sequences of header updates … and misbehaviour submissions"),
    even with `PruneAllExpiredConsensusStates` interleaved, from the empty chain, at any two points of
    the history -/
theorem never_overwritten_update_histories (ops1 ops2 : List Op)
    (h1 : ∀ op ∈ ops1, op.isUpdateLike = true) (h2 : ∀ op ∈ ops2, op.isUpdateLike = true)
    (cid : Nat) (h : Height) (c : ConsState)
    (hc : ((run World.empty ops1).client cid).getCons h = some c) :
    ((run World.empty (ops1 ++ ops2)).client cid).getCons h = some c ∨
    ((run World.empty (ops1 ++ ops2)).client cid).getCons h = none := by
  rw [run_append]
  have hw := reachable_winv ops1
  have hm := (run_updateLike ops1 World.empty winv_empty wtsMono_empty h1).1
  exact cons_unchanged_or_removed _ hw ops2 (run_updateLike ops2 _ hw hm h2).2 cid h c hc

/-- **Only expired consensus states are removed** (every operation, every state satisfying the
    invariant): if an operation removes the consensus state at `h`, that state had expired with respect
    to the client's trusting period and the block time of the operation. -/
theorem removed_only_if_expired (w : World) (hw : WInv w) (op : Op) (hok : OpOK w op) (cid : Nat)
    (h : Height) (c : ConsState) (hc : (w.client cid).getCons h = some c)
    (hr : ((step w op).1.client cid).getCons h = none) :
    ∃ cs, (w.client cid).client = some cs ∧ c.ts + cs.trustingPeriod ≤ w.now := by
  rcases step_client w hw op hok cid with st | e
  · obtain ⟨cs, hcs, he⟩ := st.expired h c hc hr
    exact ⟨cs, hcs, (isExpired_iff _ _ _).mp he⟩
  · rw [e] at hc; cases hc

/-- **Resubmitting the same header is a no-op** apart from the pruning every update performs: the
    result is exactly the pruned store, the client state is untouched and the consensus state at the
    header's height is still the same. -/
theorem duplicate_update_noop (s : Store) (hs : StoreInv s) (now : Int) (self : Height) (hdr : Header) (valid : Bool)
    (cs : ClientState) (hc : s.client = some cs) (hact : s.status now = .active)
    (hv : verifyHeader s hdr valid = none) (hdup : s.getCons hdr.height = some hdr.cons) :
    ∃ s1, s.pruneOldest cs.trustingPeriod now = some s1 ∧ updateStore s now self hdr valid = (s1, "updated") ∧
      s1.client = some cs ∧ s1.getCons hdr.height = some hdr.cons := by
  have nomis : checkHeaderMisbehaviour s hdr = false := by
    unfold checkHeaderMisbehaviour; rw [hdup]; simp
  obtain ⟨c0, ht, _, _, _, hlt, _⟩ := (verifyHeader_none_iff s hdr valid).mp hv
  rcases updateStore_cases s hs now self hdr valid with ⟨_, h | h, _⟩ | ⟨cs', hc', _, _, ⟨hm, _⟩ | ⟨_, s1, hp, pr, hcase⟩⟩
  · exact absurd hact h
  · exact absurd hv h
  · rw [nomis] at hm; cases hm
  · rw [hc] at hc'; cases hc'
    have keep := pruned_kept_above pr (has_of_getCons ht) hlt hdup
    rcases hcase with ⟨_, e⟩ | ⟨hnew, _⟩
    · exact ⟨s1, hp, e, pr.client.trans hc, keep⟩
    · exact absurd (has_of_getCons keep) hnew

/-- **A verified header that conflicts with the stored consensus state freezes the client** and writes
    nothing else: the new store differs from the old one only in the client state's frozen height. -/
theorem conflict_freezes (s : Store) (hs : StoreInv s) (now : Int) (self : Height) (hdr : Header) (valid : Bool)
    (cs : ClientState) (hc : s.client = some cs) (hact : s.status now = .active)
    (hv : verifyHeader s hdr valid = none) (c : ConsState) (hst : s.getCons hdr.height = some c) (hne : c ≠ hdr.cons) :
    updateStore s now self hdr valid = ({ s with client := some { cs with frozen := frozenHeight } }, "frozen") ∧
    ∀ now', (updateStore s now self hdr valid).1.status now' = .frozen := by
  have e := updateStore_frozen (self := self) hc hact hv
    ((checkHeaderMisbehaviour_iff s hs.metaInv hdr).mpr (Or.inl ⟨c, hst, hne⟩))
  exact ⟨e, fun now' => by rw [e]; rfl⟩

/-- **Valid misbehaviour freezes the client** and writes nothing else -/
theorem misbehaviour_freezes (s : Store) (now : Int) (m : Misbehaviour) (v1 v2 : Bool)
    (cs : ClientState) (hc : s.client = some cs) (hact : s.status now = .active) (hb : m.validateBasic = true)
    (hv : verifyMisbehaviour cs s m now v1 v2 = none) (hk' : checkMisbehaviourMsg m = true) :
    misbehaviourStore s now m v1 v2 = ({ s with client := some { cs with frozen := frozenHeight } }, "frozen") :=
  misbehaviourStore_frozen hc hact hb hv hk'

/-- a misbehaviour submission, whatever its outcome, never touches a consensus state or its metadata -/
theorem misbehaviour_writes_no_cons (s : Store) (now : Int) (m : Misbehaviour) (v1 v2 : Bool) :
    (misbehaviourStore s now m v1 v2).1.cons = s.cons ∧ (misbehaviourStore s now m v1 v2).1.ptime = s.ptime ∧
    (misbehaviourStore s now m v1 v2).1.pheight = s.pheight ∧ (misbehaviourStore s now m v1 v2).1.iter = s.iter :=
  misbehaviourStore_fst (P := fun s' => s'.cons = s.cons ∧ s'.ptime = s.ptime ∧ s'.pheight = s.pheight ∧ s'.iter = s.iter)
    now m v1 v2 ⟨rfl, rfl, rfl, rfl⟩ fun _ _ => ⟨rfl, rfl, rfl, rfl⟩

/-- a frozen (or otherwise non-Active) client accepts no header: nothing is written -/
theorem inactive_rejects_update (s : Store) (now : Int) (self : Height) (hdr : Header) (valid : Bool)
    (h : s.status now ≠ .active) : updateStore s now self hdr valid = (s, "err:client-not-active") :=
  if_pos h

/-- **Recovery and upgrade write only above the latest height**, hence above every stored height: they
    cannot overwrite either -/
theorem recover_upgrade_write_above (w : World) (hw : WInv w) (op : Op)
    (hop : op.isUpdateLike = false) (cid : Nat) (h : Height)
    (hn : ¬ (w.client cid).has h) (hh : ((step w op).1.client cid).has h) :
    hk (w.client cid).latestHeight < hk h ∧ ∀ h', (w.client cid).has h' → hk h' < hk h := by
  have above : ∀ s', WritesAbove (w.client cid) s' → s'.has h →
      hk (w.client cid).latestHeight < hk h ∧ ∀ h', (w.client cid).has h' → hk h' < hk h := by
    rintro s' (rfl | ⟨cs, cs', c, ph, pt, hc, hlt, rfl⟩) hh
    · exact absurd hh hn
    · rcases (has_insert _ cs'.latest c ph pt h).mp hh with eq | hin
      · rw [latestHeight_of_client hc, ← eq]
        exact ⟨hlt, fun h' hh' => by have := (hw.stores cid).below cs hc h' hh'; omega⟩
      · exact absurd hin hn
  refine step_client_cases (P := fun s' => s'.has h → _) w op cid (fun hh => absurd hh hn) ?_ ?_ ?_ ?_ ?_ ?_ hh
  · rintro _ _ rfl; cases hop
  · rintro _ _ rfl; cases hop
  · rintro _ _ _ rfl; cases hop
  · exact fun u _ => above _ (upgradeStore_above _ _ _ u)
  · exact fun b _ => above _ (recoverStore_above _ _ (hw.stores b).metaInv _)
  · rintro rfl; cases hop

/-! ### non-vacuity: a concrete history with an honest update, a duplicate, and a conflicting header -/

def exCs : ClientState :=
  { chainId := "simchain-1", tlNum := 1, tlDen := 3, trustingPeriod := 1000000000000, unbondingPeriod := 1500000000000, maxClockDrift := 10000000000,
    frozen := ⟨0, 0⟩, latest := ⟨1, 5⟩, proofSpecs := some "sdk", upgradePath := ["upgrade"], allowExpiry := false, allowMisb := false }

def exNvh : String := String.ofList (List.replicate 64 'a')

def exHdr (h : UInt64) (ts : Int) (root : String) : Header :=
  { height := ⟨1, h⟩, ts := ts, root := root, nvh := exNvh, trusted := ⟨1, 5⟩, tvals := some exNvh, parseOK := true,
    blockHash := "bb", commitOK := true, blockIdOK := true, basicOK := true }

def exWorld : World := (createClient ⟨[], 0, 2000000000, ⟨1, 9⟩⟩ exCs ⟨1000000000, String.ofList (List.replicate 64 'c'), exNvh⟩).1

example : (step exWorld (.update 0 (exHdr 7 1000000100 "r7") true)).2 = "updated" := by
  rw [exWorld, createClient_first (by decide +kernel)
    (by exact validateBasic_hex List.length_replicate List.length_replicate (by decide)) (by decide)]
  decide +kernel
example : ((run exWorld [.update 0 (exHdr 7 1000000100 "r7") true, .update 0 (exHdr 7 1000000100 "r7") true]).client 0).cons =
          ((run exWorld [.update 0 (exHdr 7 1000000100 "r7") true]).client 0).cons := by
  rw [exWorld, createClient_first (by decide +kernel)
    (by exact validateBasic_hex List.length_replicate List.length_replicate (by decide)) (by decide)]
  decide +kernel
example : (step (run exWorld [.update 0 (exHdr 7 1000000100 "r7") true]) (.update 0 (exHdr 7 1000000100 "FORK") true)).2 = "frozen" := by
  rw [exWorld, createClient_first (by decide +kernel)
    (by exact validateBasic_hex List.length_replicate List.length_replicate (by decide)) (by decide)]
  decide +kernel

end IbcVerif.C20
