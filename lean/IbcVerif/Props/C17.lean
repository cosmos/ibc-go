/-
  C17 — Heights are totally ordered and elapsed timeouts stay elapsed.
  Property theorems only; helper lemmas live in IbcVerif/Lemmas.
-/
import IbcVerif.Model.Height
import IbcVerif.Lemmas.Dec
import IbcVerif.Lemmas.Height
namespace IbcVerif.C17
open IbcVerif

/-- `Compare` is the lexicographic comparison: revision number first, then revision height. -/
theorem compare_spec (a b : Height) :
    (Height.compare a b = -1 ↔ (a.rev < b.rev ∨ (a.rev = b.rev ∧ a.h < b.h))) ∧
    (Height.compare a b = 0 ↔ a = b) ∧
    (Height.compare a b = 1 ↔ (b.rev < a.rev ∨ (a.rev = b.rev ∧ b.h < a.h))) := by
  have h := cmpNat_iff a.rev.toNat a.h.toNat b.rev.toNat b.h.toNat
  simp only [Height.compare_toNat, Height.ext_toNat, UInt64.lt_iff_toNat_lt, ← UInt64.toNat_inj]
  exact ⟨h.1, h.2.2.1, h.2.2.2.2⟩

theorem compare_values (a b : Height) :
    Height.compare a b = -1 ∨ Height.compare a b = 0 ∨ Height.compare a b = 1 := by
  rw [Height.compare_toNat]
  rcases cmpNat_cases a.rev.toNat a.h.toNat b.rev.toNat b.h.toNat with ⟨h, _⟩ | ⟨h, _⟩ | ⟨h, _⟩ <;> simp [h]

theorem lte_refl (a : Height) : Height.lte a a = true := by
  simp [Height.lte, Height.compare]

theorem lte_antisymm (a b : Height) (h1 : Height.lte a b = true) (h2 : Height.lte b a = true) : a = b := by
  rw [Height.lte_iff] at h1 h2
  rw [Height.ext_toNat]
  omega

theorem lte_trans (a b c : Height) (h1 : Height.lte a b = true) (h2 : Height.lte b c = true) :
    Height.lte a c = true := by
  rw [Height.lte_iff] at h1 h2 ⊢
  omega

theorem lte_total (a b : Height) : Height.lte a b = true ∨ Height.lte b a = true := by
  rw [Height.lte_iff, Height.lte_iff]
  omega

/-- the five comparison predicates agree with `Compare` and with each other -/
theorem predicates_agree (a b : Height) :
    (Height.lt a b = true ↔ (Height.lte a b = true ∧ a ≠ b)) ∧
    (Height.gt a b = Height.lt b a) ∧ (Height.gte a b = Height.lte b a) ∧
    (Height.eq a b = true ↔ a = b) ∧ (Height.lt a b = !Height.gte a b) := by
  refine ⟨?_, Height.gt_eq_lt a b, Height.gte_eq_lte a b, Height.eq_iff a b, ?_⟩
  · rw [Height.lt_iff, Height.lte_iff, ne_eq, Height.ext_toNat]; omega
  · rw [Bool.eq_iff_iff, Bool.not_eq_true', ← Bool.not_eq_true, Height.lt_iff, Height.gte_iff]; omega

/-- formatting a height and parsing it back returns the same height -/
theorem parse_format (a : Height) : Height.parse (Height.format a) = some a := by
  obtain ⟨r, h⟩ := a
  have hr : '-' ∉ dec r.toNat := not_mem_dec_of_not_digit _ _ (by decide)
  have hh : '-' ∉ dec h.toNat := not_mem_dec_of_not_digit _ _ (by decide)
  simp only [Height.parse, Height.format]
  rw [splitOnChar_append _ _ _ hr, splitOnChar_no_sep _ _ hh]
  simp only [parseUint64_dec _ (UInt64.toNat_lt r), parseUint64_dec _ (UInt64.toNat_lt h)]
  simp

/-- parsing accepts only two '-'-separated decimal components, each fitting in 64 bits -/
theorem parse_sound (s : List Char) (a : Height) (h : Height.parse s = some a) :
    ∃ r hh, splitOnChar '-' s = [r, hh] ∧ parseUint64 r = some a.rev.toNat ∧ parseUint64 hh = some a.h.toNat := by
  unfold Height.parse at h
  split at h
  · rename_i r hh heq
    split at h
    · rename_i rv hv h1 h2
      cases h
      refine ⟨r, hh, heq, ?_, ?_⟩
      · rw [h1]; congr; exact (Nat.mod_eq_of_lt (parseUint64_lt _ _ h1)).symm
      · rw [h2]; congr; exact (Nat.mod_eq_of_lt (parseUint64_lt _ _ h2)).symm
    · cases h
  · cases h

/-- a timeout that has elapsed at (h, ts) stays elapsed at every greater-or-equal height and time -/
theorem elapsed_monotone (t : Timeout) (h h' : Height) (ts ts' : UInt64)
    (he : t.elapsed h ts = true) (hh : Height.lte h h' = true) (hts : ts ≤ ts') : t.elapsed h' ts' = true := by
  simp only [Timeout.elapsed, Timeout.heightElapsed, Timeout.timestampElapsed, Bool.or_eq_true,
    Bool.and_eq_true, Bool.not_eq_true', bne_iff_ne, decide_eq_true_eq] at he ⊢
  rcases he with ⟨hz, hg⟩ | ⟨hz, hg⟩
  · rw [(predicates_agree _ _).2.2.1] at hg ⊢
    exact .inl ⟨hz, lte_trans _ _ _ hg hh⟩
  · exact .inr ⟨hz, UInt64.le_trans hg hts⟩

/-- a zero timeout height never height-elapses; a zero timestamp never time-elapses -/
theorem zero_never_elapses (t : Timeout) (h : Height) (ts : UInt64) :
    (t.height = Height.zero → t.heightElapsed h = false) ∧
    (t.ts = 0 → t.timestampElapsed ts = false) ∧
    (t.height = Height.zero → t.ts = 0 → t.elapsed h ts = false) := by
  refine ⟨?_, ?_, ?_⟩
  · intro hz; simp [Timeout.heightElapsed, hz, Height.zero, Height.isZero]
  · intro hz; simp [Timeout.timestampElapsed, hz]
  · intro hz1 hz2; simp [Timeout.elapsed, Timeout.heightElapsed, Timeout.timestampElapsed, hz1, hz2, Height.zero, Height.isZero]

/-- non-vacuity: a concrete timeout that elapses by height across a revision boundary -/
example : (Timeout.mk ⟨2, 0⟩ 0).elapsed ⟨2, 0⟩ 5 = true ∧ (Timeout.mk ⟨2, 0⟩ 0).elapsed ⟨1, 18446744073709551615⟩ 5 = false := by
  decide

end IbcVerif.C17
