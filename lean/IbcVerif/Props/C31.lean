/-
  C31 — Tracked total escrow equals net IBC escrow movements.
  Property theorems only; helper lemmas live in IbcVerif/Lemmas/Ics20Escrow.lean.

  Model: `EscrowCoin` / `UnescrowCoin` / `SetTotalEscrowForDenom` inside `Ics20.step` (Model/Ics20.lean), for
  any number of channels per chain (`ends c` lists the transfer channel / client identifiers of chain
  `c`, i.e. its escrow accounts).  The IBC escrow movements *are* the balance changes of the escrow
  accounts caused by ICS-20 (escrow on source sends, release on unwinding receives and on refunds), so
  "tracked = escrowed − released" is stated as: tracked total = combined escrow-account balance, after
  every lifecycle-respecting history, under `PartiesOK` (nothing is paid into an escrow account outside
  ICS-20 escrowing).  A direct payment into an escrow account would raise only the balance side:
  `tracked ≤ balances` in general (the harness accounts for such donations explicitly).

  Packet-forward refund moves: `Model/Ics20Pfm.lean` models the three bank / tracked-escrow moves of
  `WriteAcknowledgementForForwardedPacket` (escrow → escrow; escrow → burn with `unescrowToken`; mint →
  escrow with the tracked total incremented; nothing when the packet bounced back over its arrival
  channel, fix f970a92) as a step on the same chain state; the theorems `pfm_refund_*` below show that
  each of them preserves the equality and the bound.  (When PFM runs them — the in-flight record, the
  retry logic — is the apps cluster's model, C43.)
-/
import IbcVerif.Model.Ics20
import IbcVerif.Lemmas.Ics20Escrow
import IbcVerif.Lemmas.Ics20Pfm
namespace IbcVerif.C31
open IbcVerif IbcVerif.Xfer IbcVerif.Ics20

/-- **Tracked total escrow = combined balance of the transfer escrow accounts**, for every chain and
    every denomination, after every step of every lifecycle-respecting history, on any number of
    channels (v1, alias, v2). -/
theorem total_escrow_eq_escrow_balances (cfg : Config) (ha : Assm cfg) (ends : Nat → List Str) (he : EndsOK cfg ends)
    (w : World) (ops : List Op) (hw : Inv cfg w) (hesc : EscInv cfg ends w)
    (hl : LifecycleOK cfg w ops) (hp : ∀ op ∈ ops, PartiesOK cfg op) (c : Nat) (d : Str) :
    ((run cfg w ops).chains c).totalEscrow d =
      ((ends c).map fun e => ((run cfg w ops).chains c).bank.bal (cfg.escrowAddr transferPort e) d).sum :=
  escInv_run ha he ops w hw hesc hl hp c d

/-- … in particular every escrow account's balance is bounded by the combined balance, which is the
    tracked total -/
theorem escrow_account_le_total (cfg : Config) (ha : Assm cfg) (ends : Nat → List Str) (he : EndsOK cfg ends)
    (w : World) (ops : List Op) (hw : Inv cfg w) (hesc : EscInv cfg ends w)
    (hl : LifecycleOK cfg w ops) (hp : ∀ op ∈ ops, PartiesOK cfg op) (c : Nat) (d : Str) (e : Str) (hmem : e ∈ ends c) :
    ((run cfg w ops).chains c).bank.bal (cfg.escrowAddr transferPort e) d ≤ ((run cfg w ops).chains c).totalEscrow d :=
  (escInv_run ha he ops w hw hesc hl hp c).le_total hmem d

/-- **Never negative: the `SetTotalEscrowForDenom` panic is unreachable.**  Whenever the bank lets an
    amount leave an escrow account of the chain, the tracked total covers it, so `UnescrowCoin` does not
    take its panicking branch (`currentTotalEscrow.Sub(coin)` going negative). -/
theorem unescrow_never_panics (cfg : Config) (es : List Str) (ch : Chain) (h : EscOK cfg es ch)
    (e : Str) (he : e ∈ es) (r : Addr) (d : Str) (n : Nat) :
    unescrowCoin ch (cfg.escrowAddr transferPort e) r d n ≠ .error .panic := by
  unfold unescrowCoin
  split
  · simp
  · rename_i b hb
    have hn := (Bank.send_some hb).1
    have hle := h.le_total he d
    have : ¬ ch.totalEscrow d < n := by omega
    simp [this]

/-- each step moves the tracked total and the escrow balances together (one-step form, the invariant
    restated for a single lifecycle-respecting step) -/
theorem step_keeps_escrow_in_sync (cfg : Config) (ha : Assm cfg) (ends : Nat → List Str) (he : EndsOK cfg ends)
    (w : World) (hw : Inv cfg w) (hesc : EscInv cfg ends w) (op : Op) (hg : Guard w op) (hpo : PartiesOK cfg op) :
    EscInv cfg ends (step cfg w op).1 :=
  escInv_step ha he hw hesc op hg hpo

/-- **Packet-forward refund moves keep tracked escrow = combined escrow balance.**  Whichever of the
    branches of `WriteAcknowledgementForForwardedPacket` runs (forward channel `fc`, refund channel
    `rc`, token `D`, amount `n`), a chain state satisfying the equality still satisfies it afterwards. -/
theorem pfm_refund_keeps_total_escrow_eq_balances (cfg : Config) (ha : Assm cfg) (es : List Str) (hnd : es.Nodup)
    (ch ch' : Chain) (fc rc : Str) (D : Denom) (n : Nat) (h : EscOK cfg es ch) (hfc : fc ∈ es) (hrc : rc ∈ es)
    (hp : pfmRefund cfg ch transferPort fc transferPort rc D n = .ok ch') :
    ∀ d, ch'.totalEscrow d = (es.map fun e => ch'.bank.bal (cfg.escrowAddr transferPort e) d).sum :=
  escOK_pfmRefund ha hnd h hfc hrc hp

/-- … hence every escrow account stays bounded by the tracked total after a packet-forward refund -/
theorem pfm_refund_escrow_account_le_total (cfg : Config) (ha : Assm cfg) (es : List Str) (hnd : es.Nodup)
    (ch ch' : Chain) (fc rc : Str) (D : Denom) (n : Nat) (h : EscOK cfg es ch) (hfc : fc ∈ es) (hrc : rc ∈ es)
    (hp : pfmRefund cfg ch transferPort fc transferPort rc D n = .ok ch') (e : Str) (he : e ∈ es) (d : Str) :
    ch'.bank.bal (cfg.escrowAddr transferPort e) d ≤ ch'.totalEscrow d :=
  (escOK_pfmRefund ha hnd h hfc hrc hp).le_total he d

/-- … as a step of the world: the invariant of every chain survives a packet-forward refund on chain `c`
    (so histories may interleave these steps with the ICS-20 steps of `total_escrow_eq_escrow_balances`) -/
theorem pfm_refund_step_keeps_escrow_in_sync (cfg : Config) (ha : Assm cfg) (ends : Nat → List Str) (he : EndsOK cfg ends)
    (w : World) (hesc : EscInv cfg ends w) (c : Nat) (fc rc : Str) (D : Denom) (n : Nat)
    (hfc : fc ∈ ends c) (hrc : rc ∈ ends c) :
    EscInv cfg ends (World.pfmRefund cfg w c transferPort fc transferPort rc D n).1 := by
  unfold World.pfmRefund
  split
  · rename_i ch' hp
    intro c'
    simp only [World.setChain]
    split_ifs with hcc
    · subst hcc
      exact escOK_pfmRefund ha (he.nodup _) (hesc _) hfc hrc hp
    · exact hesc c'
  · exact hesc

/-- the burning branch cannot hit the `unescrowToken` panic (negative tracked total) when the equality
    holds: the tracked total covers whatever an escrow account can pay out -/
theorem pfm_refund_never_panics_on_total (cfg : Config) (es : List Str) (ch : Chain) (h : EscOK cfg es ch)
    (fc : Str) (hfc : fc ∈ es) (d : Str) (n : Nat)
    (hn : n ≤ ch.bank.bal (cfg.escrowAddr transferPort fc) d) : ¬ ch.totalEscrow d < n := by
  have hle := h.le_total hfc d
  omega

/-- a genesis-like world (tracked totals and escrow accounts empty) satisfies the invariant -/
theorem escInv_genesis (cfg : Config) (ends : Nat → List Str) (w : World)
    (ht : ∀ c d, (w.chains c).totalEscrow d = 0)
    (hesc : ∀ c p ch d, (w.chains c).bank.bal (cfg.escrowAddr p ch) d = 0) : EscInv cfg ends w := by
  intro c d
  simp only [ht, hesc]
  induction ends c with
  | nil => rfl
  | cons x xs ih => simpa using ih

/-- non-vacuity: after escrowing 5 and 3 `uatom` over two channels the tracked total is 8 = 5 + 3 -/
example :
    let cfg : Config :=
      { hashHex := (fun s => s)
        decode := (fun s => some s)
        blocked := (fun _ _ => false)
        moduleAddr := "module".toList
        escrowAddr := (fun p c => "esc:".toList ++ p ++ c)
        peer := (fun _ _ => some (1, "channel-9".toList))
        hasChannel := (fun _ _ _ => true) }
    let ch : Chain := ⟨⟨fun a d => if a = "u".toList ∧ d = "uatom".toList then 10 else 0, fun _ => 10⟩, fun _ => 0, [], true, true⟩
    let w : World := ⟨fun _ => ch, [], [], [], []⟩
    let m (c : String) (n : Nat) : MsgTransfer := ⟨"transfer".toList, c.toList, "uatom".toList, n, "u".toList, "v".toList, [], false, []⟩
    let w₂ := run cfg w [.transfer 0 "u".toList true (m "channel-0" 5) none 1, .transfer 0 "u".toList true (m "channel-1" 3) none 1]
    (w₂.chains 0).totalEscrow "uatom".toList = 8 ∧
    (w₂.chains 0).bank.bal ("esc:".toList ++ "transfer".toList ++ "channel-0".toList) "uatom".toList = 5 ∧
    (w₂.chains 0).bank.bal ("esc:".toList ++ "transfer".toList ++ "channel-1".toList) "uatom".toList = 3 := by
  decide +kernel

end IbcVerif.C31
