/-
  C34 — Denomination paths round-trip and determine voucher names.
  Property theorems only; helper lemmas live in IbcVerif/Lemmas/Denom.lean.

  Model: IbcVerif/Model/Denom.lean (transfer/types/denom.go, hop.go, keys.go and the identifier
  recognisers `ExtractDenomFromPath` calls: `channeltypes.IsValidChannelID`,
  `clienttypes.IsValidClientID`).  The hash is a parameter: `hashHex s` stands for the upper-case hex
  of SHA-256 of `s`, `h20 s` for its first 20 bytes.
-/
import IbcVerif.Model.Denom
import IbcVerif.Lemmas.Denom
import IbcVerif.Lemmas.Ics20Inv
namespace IbcVerif.C34
open IbcVerif IbcVerif.Xfer

/-- **Round trip.**  Every denomination path that ICS-20 accepts (`ExtractDenomFromPath(s).Validate()`
    succeeds — the check `FungibleTokenPacketData.ValidateBasic` performs on send and on receive)
    serialises back to the same string after being parsed into trace and base. -/
theorem path_roundtrip (s : Str) (h : (extract s).validate = none) : (extract s).path = s :=
  extract_path_of_base_ne_nil s fun e => by simp [Denom.validate, e, goBlank] at h

/-- The only parses that do not round-trip end in an empty base (which `Validate` rejects):
    whenever the base is non-empty the path is reproduced, validated or not. -/
theorem path_roundtrip_of_base_ne_nil (s : Str) (h : (extract s).base ≠ []) : (extract s).path = s :=
  extract_path_of_base_ne_nil s h

/-- **Where the hop loop stops.**  The '/'-segments of `s` are the
    trace's (port, channel) pairs followed by the segments joined into the base; every hop has an
    ibc-go formatted channel or client identifier; the loop stopped at the first pair whose second
    segment is not so formatted (or immediately, when `s` has at most two segments). -/
theorem extract_characterisation (s : Str) :
    ∃ rest : List Str,
      splitOnChar '/' s = flatHops (extract s).trace ++ rest ∧
      (extract s).base = joinWith '/' rest ∧
      (∀ h ∈ (extract s).trace, isHopId h.chan = true) ∧
      (∀ p c more, rest = p :: c :: more → isHopId c = false ∨ (splitOnChar '/' s).length ≤ 2) := by
  rw [extract_eq]
  obtain ⟨hflat, hid, hstop⟩ := extractGo_spec (decide ((splitOnChar '/' s).length > 2)) (splitOnChar '/' s)
  refine ⟨_, hflat.symm, rfl, hid, fun p c more hrest => ?_⟩
  have := hstop p c more hrest
  simp only [Bool.and_eq_false_iff, decide_eq_false_iff_not, Nat.not_lt] at this
  exact this.symm

/-- **Voucher name.**  For an accepted path the voucher denomination is `"ibc/"` + hash of exactly the
    path string when a trace was found, and the string itself otherwise. -/
theorem voucher_name_of_path (hashHex : Str → Str) (s : Str) (h : (extract s).validate = none) :
    (extract s).ibcDenom hashHex =
      if (extract s).trace.isEmpty then s else "ibc/".toList ++ hashHex s := by
  have hp := path_roundtrip s h
  unfold Denom.ibcDenom Denom.isNative
  split
  · rename_i hn
    simp only [Denom.path, Denom.isNative, hn, if_true] at hp
    exact hp
  · rw [hp]

/-- **Independence of the split.**  Two trace/base decompositions of the same path string (both with
    a non-empty trace) get the same voucher name: `IBCDenom` hashes `Path()` and nothing else. -/
theorem voucher_name_independent_of_split (hashHex : Str → Str) (d₁ d₂ : Denom)
    (h₁ : d₁.trace ≠ []) (h₂ : d₂.trace ≠ []) (hp : d₁.path = d₂.path) :
    d₁.ibcDenom hashHex = d₂.ibcDenom hashHex := by
  simp [Denom.ibcDenom, Denom.isNative, List.isEmpty_iff, h₁, h₂, hp]

/-- … in particular re-parsing the path of a voucher `d` (as the receiving side and the refund path do)
    yields the same voucher name as `d`, however the parser splits it, as long as it finds a trace. -/
theorem voucher_name_stable_under_reparse (hashHex : Str → Str) (d : Denom) (hd : d.trace ≠ [])
    (hv : (extract d.path).validate = none) (ht : (extract d.path).trace ≠ []) :
    (extract d.path).ibcDenom hashHex = d.ibcDenom hashHex :=
  voucher_name_independent_of_split hashHex _ _ ht hd (path_roundtrip _ hv)

/-- The escrow-address pre-image `"ics20-1" ++ [0] ++ port ++ "/" ++ channel` determines the
    (port, channel) pair for '/'-free port identifiers (all valid identifiers are '/'-free). -/
theorem escrowPreimage_injective (p c p' c' : Str) (hp : '/' ∉ p) (hp' : '/' ∉ p')
    (h : escrowPreimage p c = escrowPreimage p' c') : p = p' ∧ c = c' := by
  have h1 : p ++ '/' :: c = p' ++ '/' :: c' := (List.cons.inj (List.append_cancel_left h)).2
  have h2 := congrArg (splitOnChar '/') h1
  rw [splitOnChar_append '/' p c hp, splitOnChar_append '/' p' c' hp'] at h2
  obtain rfl : p = p' := (List.cons.inj h2).1
  exact ⟨rfl, by simpa using h1⟩

/-- **Escrow addresses bind the channel** (collision-extraction form): equal escrow addresses for
    two (port, channel) pairs with '/'-free ports mean equal pairs — or an explicit collision of the
    20-byte truncated hash on two distinct, exhibited pre-images. -/
theorem escrow_address_binds {α : Type} (h20 : Str → α) (p c p' c' : Str) (hp : '/' ∉ p) (hp' : '/' ∉ p')
    (h : escrowAddress h20 p c = escrowAddress h20 p' c') :
    (p = p' ∧ c = c') ∨
    (escrowPreimage p c ≠ escrowPreimage p' c' ∧ h20 (escrowPreimage p c) = h20 (escrowPreimage p' c')) := by
  by_cases he : escrowPreimage p c = escrowPreimage p' c'
  · left; exact escrowPreimage_injective p c p' c' hp hp' he
  · right; exact ⟨he, h⟩

/-- valid port identifiers are '/'-free, so the hypothesis of `escrow_address_binds` holds for every
    identifier pair ICS-24 validation accepts -/
theorem validPortId_no_sep (p : Str) (h : validPortId p = true) : '/' ∉ p := by
  unfold validPortId validIdentifier at h
  simp only [Bool.and_eq_true, Bool.not_eq_true', decide_eq_true_eq] at h
  intro hm
  have := h.1.1.1.1.2
  simp [hm] at this

/-- **Stored under the hash of exactly the full path.**  In the ICS-20 model (`SetDenom` is the only
    writer of the denomination store, keeper.go) the store never holds two entries under one key —
    the key being the hash of the entry's own `Path()` — after any sequence of steps whatsoever, and
    looking an entry up by the hash of its path returns exactly that entry. -/
theorem denom_stored_under_hash (cfg : Ics20.Config) (w : Ics20.World) (ops : List Ics20.Op)
    (h0 : Ics20.DenomsKeyed cfg w) (c : Nat) :
    ∀ d ∈ ((Ics20.run cfg w ops).chains c).denoms,
      Ics20.getDenom cfg ((Ics20.run cfg w ops).chains c) (cfg.hashHex d.path) = some d :=
  fun d hd => Ics20.getDenom_of_mem (Ics20.denomsKeyed_run cfg ops w h0 c) d hd

/-- non-vacuity: accepted paths with unexpected shapes — a trace followed by a multi-segment base, and
    a client-id hop — parse and round-trip; a path ending in a hop does not validate. -/
example :
    (extract "transfer/channel-0/gamm/pool/1".toList) = ⟨[⟨"transfer".toList, "channel-0".toList⟩], "gamm/pool/1".toList⟩ ∧
    (extract "transfer/channel-0/gamm/pool/1".toList).validate = none ∧
    (extract "transfer/07-tendermint-12/x".toList).trace = [⟨"transfer".toList, "07-tendermint-12".toList⟩] ∧
    (extract "transfer/channel-0/transfer/channel-1".toList).validate = some .blankBase := by
  decide +kernel

end IbcVerif.C34
