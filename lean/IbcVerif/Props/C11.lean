/-
  C11 — Each received packet gets at most one immutable acknowledgement.
-/
import IbcVerif.Lemmas.ChainInv2
import IbcVerif.Lemmas.ChainExamples
namespace IbcVerif.C11
open IbcVerif IbcVerif.Chain

/-- v1: once an acknowledgement commitment is written for (port, channel, sequence) it never
    changes or disappears, whatever follows (synchronous acks, async writes, replays, …). -/
theorem ack_write_once_v1 (ops more : List Op) (k : Id × Id × Nat) (v : Hex)
    (h : (run init ops).ackV1.get k = some v) : (run init (ops ++ more)).ackV1.get k = some v := by
  rw [run_append]
  exact run_preserves (P := fun s => s.ackV1.get k = some v) (fun _ _ ht hp => ht.ackV1 k v hp) _ more h

/-- v2: the same for (destination id, sequence). -/
theorem ack_write_once_v2 (ops more : List Op) (k : Id × Nat) (v : List Hex)
    (h : (run init ops).ackV2.get k = some v) : (run init (ops ++ more)).ackV2.get k = some v := by
  rw [run_append]
  exact run_preserves (P := fun s => s.ackV2.get k = some v) (fun _ _ ht hp => ht.ackV2 k v hp) _ more h

/-- v1: an acknowledgement is written (by core or by the application's async path) only on an OPEN
    channel end, only if none exists yet, and only with non-empty bytes. -/
theorem write_ack_v1_requires (s s' : ChainState) (p : PacketV1) (a : Option Hex) (h : writeAckV1 s p a = .ok s') :
    ∃ bz ch, a = some bz ∧ bz ≠ "" ∧ s.chan.get (p.dp, p.dc) = some ch ∧ ch.state = .opened ∧
      s.ackV1.get (p.dp, p.dc, p.seq) = none ∧ s'.ackV1.get (p.dp, p.dc, p.seq) = some bz := by
  obtain ⟨bz, ch, h1, h2, h3, h4, h5, rfl⟩ := writeAckV1_ok h
  exact ⟨bz, ch, h1, h2, h3, h4, h5, by simp⟩

/-- a second acknowledgement write for the same packet always fails (ErrAcknowledgementExists). -/
theorem second_write_ack_v1_fails (s s' : ChainState) (p : PacketV1) (a b : Option Hex)
    (h : writeAckV1 s p a = .ok s') : ∀ s'', writeAckV1 s' p b ≠ .ok s'' :=
  fun _ h2 => writeAckV1_twice h2 h

/-- v2 refuses to write an acknowledgement for a packet that has no receipt: in every reachable
    state an acknowledgement implies a receipt. -/
theorem v2_ack_needs_receipt (ops : List Op) (k : Id × Nat) (h : (run init ops).ackV2.get k ≠ none) :
    (run init ops).receiptV2.get k ≠ none :=
  (inv2_run_init ops).ackRc k h

/-- asynchronous v2 packets: an entry exists only for a received packet whose acknowledgement has
    not been written, and it is stored under its own (destination, sequence). -/
theorem async_packet_invariant (ops : List Op) (k : Id × Nat) (p : PacketV2)
    (h : (run init ops).asyncV2.get k = some p) :
    (p.dst, p.seq) = k ∧ (run init ops).receiptV2.get k ≠ none ∧ (run init ops).ackV2.get k = none := by
  have h2 := inv2_run_init ops
  have := h2.asyncRc k (by rw [h]; simp)
  exact ⟨h2.asyncKey k p h, this.1, this.2⟩

/-- an asynchronously acknowledged packet stays retrievable until its acknowledgement is written and
    is removed exactly then: one step either keeps the entry or removes it while writing the ack. -/
theorem async_packet_lifecycle (ops : List Op) (op : Op) (k : Id × Nat) (p : PacketV2)
    (h : (run init ops).asyncV2.get k = some p) :
    (step (run init ops) op).1.asyncV2.get k = some p ∨
    ((step (run init ops) op).1.asyncV2.get k = none ∧ (step (run init ops) op).1.ackV2.get k ≠ none) := by
  have h2 := inv2_run_init ops
  have ht := tr_step (run init ops) op
  have hk := h2.asyncKey k p h
  rcases ht.asyncOld k p h with h' | ⟨h', hcase⟩ | h'
  · exact .inl h'
  · rcases hcase with ⟨_, _, hack⟩ | hne
    · exact .inr ⟨h', hack⟩
    · exact absurd hk hne
  · exact absurd h' (h2.asyncRc k (by rw [h]; simp)).1

/-- a premature or repeated asynchronous write (no stored async packet for the key) fails and
    changes nothing. -/
theorem async_write_without_packet_fails (s : ChainState) (env : Env) (dst : Id) (seq : Nat) (acks : List Hex)
    (h : s.asyncV2.get (dst, seq) = none) :
    (step s ⟨env, .writeAckV2 dst seq acks⟩).2.isOk = false ∧ (step s ⟨env, .writeAckV2 dst seq acks⟩).1 = s := by
  refine not_ok_unchanged fun s' r hstep => ?_
  obtain ⟨p, _, hp, _⟩ := asyncWriteAckV2_ok ((writeAckV2_cases hstep).ok rfl)
  rw [h] at hp; cases hp

/-- a successful asynchronous write removes the async packet and writes the acknowledgement. -/
theorem async_write_removes_packet (s s' : ChainState) (env : Env) (dst : Id) (seq : Nat) (acks : List Hex) (r : String)
    (h : step s ⟨env, .writeAckV2 dst seq acks⟩ = (s', .ok r)) :
    s'.asyncV2.get (dst, seq) = none := by
  obtain ⟨p, s1, _, _, rfl⟩ := asyncWriteAckV2_ok ((writeAckV2_cases h).ok rfl)
  simp

example : Inv2 Chain.init := Inv2.init

/-- non-vacuity: on a state with an OPEN channel end the first acknowledgement write succeeds … -/
example : (writeAckV1 Ex.sOpen Ex.pkIn (some "aa")).toBool = true := by decide +kernel
/-- … and asynchronous writes without a stored packet are really rejected by `step` -/
example : (step Ex.sOpen ⟨Ex.envOK, .writeAckV2 "channel-0" 1 ["aa"]⟩).2 = .err e2InvalidAck := by decide +kernel

end IbcVerif.C11
