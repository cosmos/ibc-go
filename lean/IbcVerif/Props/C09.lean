/-
  C09 — Failed receives discard application state but keep receipt and ack.

  The application is arbitrary: the op says what it returned (`app.res`, `app.ack`) and how much it
  wrote before returning (`app.w` keys of the application store, written on the context it was
  handed).  Mirrors the two CacheContext scopes of RecvPacket (modules/core/keeper/msg_server.go).
-/
import IbcVerif.Lemmas.ChainInv
namespace IbcVerif.C09
open IbcVerif IbcVerif.Chain

/-- error acknowledgement: NONE of the application's writes persist, while the receipt (UNORDERED) or
    the next-receive counter (ORDERED) and the error acknowledgement are written. -/
theorem recv_error_ack_discards_app (s s' : ChainState) (env : Env) (p : PacketV1) (app : AppV1) (r : String)
    (herr : app.res = .err) (h : step s ⟨env, .recvV1 p app⟩ = (s', .ok r)) :
    s'.app = s.app ∧
    s'.ackV1.get (p.dp, p.dc, p.seq) = some app.ack ∧
    (s'.receiptV1.get (p.dp, p.dc, p.seq) ≠ none ∨
      ∃ n, s.nextRecv.get (p.dp, p.dc) = some n ∧ s'.nextRecv.get (p.dp, p.dc) = some (n + 1)) := by
  obtain ⟨s1, h1, hcase⟩ := (recvV1_cases h).ok rfl
  obtain ⟨ch, _, _, h2⟩ := recvPacketV1_ok h1
  have happ := (recvPacketV1_frame h1).2.2.2
  rcases hcase with ⟨hres, _⟩ | ⟨_, _, rfl⟩ | ⟨hres, _⟩
  · rw [herr] at hres; cases hres
  · refine ⟨happ, by simp, ?_⟩
    rcases applyReplayProtection_ok h2 with ⟨_, _, rfl⟩ | ⟨_, hn, rfl⟩
    · left; simp
    · right; exact ⟨_, hn, by simp⟩
  · rw [herr] at hres; cases hres

/-- successful or asynchronous acknowledgement: the application's writes persist. -/
theorem recv_success_or_async_keeps_app (s s' : ChainState) (env : Env) (p : PacketV1) (app : AppV1) (r : String)
    (hok : app.res = .ok ∨ app.res = .async) (h : step s ⟨env, .recvV1 p app⟩ = (s', .ok r)) :
    s'.app = appWrites s.app "" env.tag app.w := by
  obtain ⟨s1, h1, hcase⟩ := (recvV1_cases h).ok rfl
  have happ := (recvPacketV1_frame h1).2.2.2
  rcases hcase with ⟨_, _, rfl⟩ | ⟨hres, _⟩ | ⟨_, rfl⟩
  · simp [happ]
  · rcases hok with h' | h' <;> (rw [hres] at h'; cases h')
  · simp [happ]

/-- the outcome of a failing receive does not depend on what the application wrote before failing:
    two applications that both return an error ack with the same bytes lead to the same result,
    whatever they wrote (how many keys, which values). -/
theorem outcome_independent_of_partial_writes (s : ChainState) (env : Env) (tag' : String) (p : PacketV1) (app app' : AppV1)
    (h1 : app.res = .err) (h2 : app'.res = .err) (hack : app.ack = app'.ack) :
    step s ⟨env, .recvV1 p app⟩ = step s ⟨{ env with tag := tag' }, .recvV1 p app'⟩ := by
  simp only [step, Body.isMsg, msgRecvPacket, h1, h2, hack]
  rfl

/-- a step that fails persists nothing, not even the receipt: this is what happens to a receive whose
    acknowledgement write fails (empty bytes, existing ack, closed channel). -/
theorem recv_ack_write_failure_reverts (s : ChainState) (op : Op) (h : (step s op).2.isOk = false) : (step s op).1 = s :=
  step_unchanged rfl h

example : Inv Chain.init := Inv.init

end IbcVerif.C09
