/-
  C02 — Ordered channels deliver and acknowledge strictly in sequence.

  `recvSeqs port chan log` / `ackSeqs port chan log` are the sequences of the committed
  OnRecvPacket / OnAcknowledgementPacket callbacks on the channel end, in the order they happened.
  All proof verdicts and application results are adversarial inputs of every op.
-/
import IbcVerif.Lemmas.ChainInv2
namespace IbcVerif.C02
open IbcVerif IbcVerif.Chain

/-- after ANY history, the deliveries on an ORDERED channel end are exactly 1, 2, …, nextSequenceRecv-1
    in that order: send order, no gaps, no repeats — however the relayer ordered / duplicated messages. -/
theorem ordered_recv_is_prefix (ops : List Op) (port chan : Id) (ch : Channel)
    (hc : (run init ops).chan.get (port, chan) = some ch) (ho : ch.ordering = .ordered) :
    ∃ n, (run init ops).nextRecv.get (port, chan) = some n ∧ 1 ≤ n ∧
      recvSeqs port chan (run init ops).log = List.range' 1 (n - 1) :=
  (inv2_run_init ops).ordRecv port chan ch hc ho

/-- the sender processes acknowledgements in the same order: exactly 1, 2, …, nextSequenceAck-1. -/
theorem ordered_ack_is_prefix (ops : List Op) (port chan : Id) (ch : Channel)
    (hc : (run init ops).chan.get (port, chan) = some ch) (ho : ch.ordering = .ordered) :
    ∃ n, (run init ops).nextAck.get (port, chan) = some n ∧ 1 ≤ n ∧
      ackSeqs port chan (run init ops).log = List.range' 1 (n - 1) :=
  (inv2_run_init ops).ordAck port chan ch hc ho

/-- a packet whose predecessor has not been received can never be received: a successful receive on
    an ORDERED channel has exactly the next expected sequence (for every proof verdict). -/
theorem ordered_recv_needs_pred (s s' : ChainState) (env : Env) (p : PacketV1) (app : AppV1) (r : String) (ch : Channel)
    (hc : s.chan.get (p.dp, p.dc) = some ch) (ho : ch.ordering = .ordered)
    (h : step s ⟨env, .recvV1 p app⟩ = (s', .ok r)) :
    s.nextRecv.get (p.dp, p.dc) = some p.seq ∧ s'.nextRecv.get (p.dp, p.dc) = some (p.seq + 1) := by
  obtain ⟨s1, h1, hs⟩ := (recvV1_cases h).ok rfl
  obtain ⟨ch1, hc1, _, h2⟩ := recvPacketV1_ok h1
  rw [hc] at hc1; cases hc1
  rcases applyReplayProtection_ok h2 with ⟨hu, _⟩ | ⟨_, hn, rfl⟩
  · rw [ho] at hu; cases hu
  · refine ⟨hn, ?_⟩
    rcases hs with ⟨_, _, rfl⟩ | ⟨_, _, rfl⟩ | ⟨_, rfl⟩ <;> exact FMap.get_set_self _ _ _

/-- an acknowledgement is processed on an ORDERED channel only for the next expected sequence. -/
theorem ordered_ack_needs_pred (s s' : ChainState) (env : Env) (p : PacketV1) (ack : Hex) (app : AppV1) (r : String)
    (ch : Channel) (hc : s.chan.get (p.sp, p.sc) = some ch) (ho : ch.ordering = .ordered)
    (h : step s ⟨env, .ackV1 p ack app⟩ = (s', .ok r)) :
    s.nextAck.get (p.sp, p.sc) = some p.seq := by
  obtain ⟨s1, h1, _⟩ := (ackV1_cases h).ok rfl
  obtain ⟨ch1, hc1, _, _, hcase⟩ := acknowledgePacketV1_ok h1
  rw [hc] at hc1; cases hc1
  rcases hcase with ⟨_, hn, _⟩ | ⟨hno, _⟩
  · exact hn
  · exact absurd ho hno

/-- non-vacuity -/
example : Inv2 Chain.init := Inv2.init

end IbcVerif.C02
