/-
  C18 — Merkle proofs verify exactly the committed key/value under the root.
  PARTIAL by design: ibc-go's own code (argument validation, chaining of per-store proofs, key
  order, final root comparison, non-membership at the lowest level, BuildMerklePath's slice
  handling) is proved; the soundness of a single ICS-23 existence / non-existence proof is the named
  hypothesis `Ics23Sound` (library code), and "a tree holds one value per key" is `Functional`.
-/
import IbcVerif.Model.Merkle
import IbcVerif.Lemmas.Merkle
namespace IbcVerif.C18
open IbcVerif IbcVerif.Merkle

/-- what the per-level proof objects are supposed to mean -/
structure TreeSem where
  Holds : Nat → Bytes → Bytes → Bytes → Prop    -- level i: the tree with this root maps key ↦ value
  Absent : Bytes → Bytes → Prop                  -- level 0: the tree with this root has no such key

def Ics23Sound (T : TreeSem) (VE : Nat → Bytes → Bytes → Bytes → Bool) (VN : Bytes → Bytes → Bool) : Prop :=
  (∀ i r k v, VE i r k v = true → T.Holds i r k v) ∧ (∀ r k, VN r k = true → T.Absent r k)

def Functional (T : TreeSem) : Prop := ∀ i r k v v', T.Holds i r k v → T.Holds i r k v' → v = v'
def AbsentExcludes (T : TreeSem) : Prop := ∀ r k v, T.Absent r k → ¬ T.Holds 0 r k v

/-- `value` is committed under `root` through `m` nested stores starting at level `i`: the value sits
    under key `path[n-1-i]` in a tree whose root is the value under `path[n-2-i]` in the next tree … -/
def Committed (T : TreeSem) (keyAt : Nat → Option Bytes) (n : Nat) : Nat → Nat → Bytes → Bytes → Prop
  | 0, _, value, root => value = root
  | m + 1, i, value, root => ∃ k r, keyAt (n - 1 - i) = some k ∧ T.Holds i r k value ∧ Committed T keyAt n m (i + 1) r root

variable (T : TreeSem) (VE : Nat → Bytes → Bytes → Bytes → Bool) (VN : Bytes → Bytes → Bool) (keyAt : Nat → Option Bytes)

theorem chain_sound (hs : Ics23Sound T VE VN) (n : Nat) :
    ∀ (levels : List Level) (i : Nat) (value r : Bytes), chain VE keyAt n levels i value = some r →
      Committed T keyAt n levels.length i value r := by
  intro levels
  induction levels with
  | nil => intro i value r h; exact Option.some.inj h
  | cons l rest ih =>
    intro i value r h
    obtain ⟨sub, key, _, hk, _, hve, hc⟩ := chain_cons_some.mp h
    exact ⟨key, sub, hk, hs.1 i sub key value hve, ih (i + 1) sub r hc⟩

/-- every malformed argument is rejected, and a successful membership verification means the
    NON-EMPTY value is committed under exactly this root through every level of the key path -/
theorem membership_sound (hs : Ics23Sound T VE VN) (proofsNil : Bool) (levels : List Level) (nSpecs pathLen : Nat)
    (root value : Bytes) (h : verifyMembership VE keyAt proofsNil levels nSpecs pathLen root value = .ok) :
    proofsNil = false ∧ root ≠ [] ∧ value ≠ [] ∧ nSpecs = levels.length ∧ pathLen = levels.length ∧
    (∀ l ∈ levels, l.specNil = false ∧ l.kind = .exist) ∧
    Committed T keyAt pathLen levels.length 0 value root := by
  obtain ⟨hv, hval, hch⟩ := verifyMembership_ok.mp h
  obtain ⟨h1, h2, h3, h4, h5⟩ := validateArgs_ok.mp hv
  refine ⟨h1, h2, hval, h3, h4.trans h3, fun l hl => ⟨?_, chain_kinds hch l hl⟩,
    chain_sound T VE VN keyAt hs pathLen levels 0 value root hch⟩
  simpa using List.any_eq_false.mp h5 l.specNil (List.mem_map.mpr ⟨l, hl, rfl⟩)

/-- under "one value per key", the value committed under a root through a given key path is unique:
    two successful verifications against the same root and path prove the same value -/
theorem committed_value_unique (hf : Functional T) (n : Nat) :
    ∀ (m i : Nat) (v v' root : Bytes), Committed T keyAt n m i v root → Committed T keyAt n m i v' root → v = v' := by
  intro m
  induction m with
  | zero => intro i v v' root (h : v = root) (h' : v' = root); exact h.trans h'.symm
  | succ m ih =>
    rintro i v v' root ⟨k, r, hk, hh, hc⟩ ⟨k', r', hk', hh', hc'⟩
    cases hk.symm.trans hk'
    cases ih (i + 1) r r' root hc hc'
    exact hf i r k v v' hh hh'

theorem membership_value_unique (hs : Ics23Sound T VE VN) (hf : Functional T) (levels levels' : List Level) (n : Nat)
    (root v v' : Bytes)
    (h : verifyMembership VE keyAt false levels n n root v = .ok)
    (h' : verifyMembership VE keyAt false levels' n n root v' = .ok) : v = v' := by
  obtain ⟨_, _, _, _, e1, _, c1⟩ := membership_sound T VE VN keyAt hs false levels n n root v h
  obtain ⟨_, _, _, _, e2, _, c2⟩ := membership_sound T VE VN keyAt hs false levels' n n root v' h'
  rw [← e1] at c1; rw [← e2] at c2
  exact committed_value_unique T keyAt hf n n 0 v v' root c1 c2

/-- a successful non-membership verification means the key is absent at the lowest level of a
    store that is itself committed under the root -/
theorem nonmembership_sound (hs : Ics23Sound T VE VN) (proofsNil : Bool) (levels : List Level) (nSpecs pathLen : Nat)
    (root : Bytes) (h : verifyNonMembership VE VN keyAt proofsNil levels nSpecs pathLen root = .ok) :
    root ≠ [] ∧ pathLen = levels.length ∧
    ∃ key r0, keyAt (pathLen - 1) = some key ∧ T.Absent r0 key ∧ Committed T keyAt pathLen (levels.length - 1) 1 r0 root := by
  cases levels with
  | nil => exact absurd h verifyNonMembership_nil
  | cons l0 rest =>
    obtain ⟨hv, sub, key, _, hk, _, hvn, hch⟩ := verifyNonMembership_cons_ok.mp h
    obtain ⟨_, h2, h3, h4, _⟩ := validateArgs_ok.mp hv
    exact ⟨h2, h4.trans h3, key, sub, hk, hs.2 sub key hvn, chain_sound T VE VN keyAt hs pathLen rest 1 sub root hch⟩

/-- membership and non-membership of the same key path under the same root cannot both verify -/
theorem membership_excludes_nonmembership (hs : Ics23Sound T VE VN) (hf : Functional T) (ha : AbsentExcludes T)
    (levels levels' : List Level) (n : Nat) (root v : Bytes)
    (h : verifyMembership VE keyAt false levels n n root v = .ok)
    (h' : verifyNonMembership VE VN keyAt false levels' n n root = .ok) : False := by
  cases levels' with
  | nil => exact verifyNonMembership_nil h'
  | cons l0 rest =>
    obtain ⟨_, _, _, _, e1, _, c1⟩ := membership_sound T VE VN keyAt hs false levels n n root v h
    obtain ⟨_, e2, key, r0, hk, habs, c2⟩ := nonmembership_sound T VE VN keyAt hs false (l0 :: rest) n n root h'
    subst e2
    rw [← e1] at c1
    obtain ⟨k, r, hk1, hh, hc⟩ := c1
    simp only [List.length_cons, Nat.add_sub_cancel, Nat.sub_zero] at hk1 hk c2 hc
    cases hk1.symm.trans hk
    cases committed_value_unique T keyAt hf _ _ 1 r r0 root hc c2
    exact ha _ _ v habs hh

/-- well-formed slice headers: inside their array, length within capacity -/
def SliceWF (h : Heap) (s : Slice) : Prop :=
  s.arr < h.length ∧ s.len ≤ s.cap ∧ s.off + s.cap ≤ (h.getD s.arr []).length

/-- no prefix element can *see* the spare capacity of the last element (true for slices that were
    allocated separately, e.g. decoded from protobuf) -/
def NoAliasSpare (pre : List Slice) (last : Slice) (n : Nat) : Prop :=
  ∀ s ∈ pre, s.arr = last.arr → s.off + s.len ≤ last.off + last.len ∨ last.off + last.len + n ≤ s.off

theorem goAppend_preserves_views (h : Heap) (last : Slice) (data : Bytes) (hl : SliceWF h last)
    (s : Slice) (hs : SliceWF h s)
    (hna : s.arr = last.arr → s.off + s.len ≤ last.off + last.len ∨ last.off + last.len + data.length ≤ s.off) :
    s.view (goAppend h last data).1 = s.view h := by
  unfold goAppend
  split
  · simp only [Slice.view]
    by_cases ha : s.arr = last.arr
    · rw [ha, getD_set_self h _ _ hl.1]
      exact view_writeAt_disjoint _ _ _ _ _ (by have := hl.2.2; have := hl.2.1; omega) (hna ha)
    · rw [getD_set_ne h _ _ _ (Ne.symm ha)]
  · simp only [Slice.view, List.getD_eq_getElem?_getD, List.getElem?_append_left hs.1]

/-- `BuildMerklePath(prefix, path)`: every element of the caller's `prefix` shows exactly the same
    bytes afterwards (the append may only write into spare capacity nobody can see) … -/
theorem buildMerklePath_preserves_prefix (h h' : Heap) (pre out : List Slice) (path : Bytes)
    (hwf : ∀ s ∈ pre, SliceWF h s)
    (hb : buildMerklePath h pre path = some (h', out))
    (hna : ∀ last, pre.getLast? = some last → NoAliasSpare pre last path.length) :
    ∀ s ∈ pre, s.view h' = s.view h := by
  rcases eq_nil_or_snoc pre with rfl | ⟨init, last, rfl⟩
  · cases hb
  · rw [buildMerklePath_concat] at hb
    cases hb
    intro s hs
    exact goAppend_preserves_views h last path (hwf last (by simp)) s (hwf s hs) (hna last (by simp) s hs)

/-- … and the result is the prefix with `path` appended to its last element -/
theorem buildMerklePath_result (h h' : Heap) (pre out : List Slice) (path : Bytes)
    (hwf : ∀ s ∈ pre, SliceWF h s)
    (hb : buildMerklePath h pre path = some (h', out)) :
    ∃ init last last', pre = init ++ [last] ∧ out = init ++ [last'] ∧ last'.view h' = last.view h ++ path := by
  rcases eq_nil_or_snoc pre with rfl | ⟨init, last, rfl⟩
  · cases hb
  · rw [buildMerklePath_concat] at hb
    cases hb
    have hl := hwf last (by simp)
    exact ⟨init, last, _, rfl, rfl, view_goAppend_self h last path hl.1 hl.2.2⟩

/-- an empty prefix panics (the only panic of the function) -/
theorem buildMerklePath_panics_iff (h : Heap) (pre : List Slice) (path : Bytes) :
    buildMerklePath h pre path = none ↔ pre = [] := by
  rcases eq_nil_or_snoc pre with rfl | ⟨init, last, rfl⟩
  · simp [buildMerklePath]
  · simp [buildMerklePath_concat]

/-- non-vacuity: a prefix whose last element has spare capacity; the append writes in place and the
    caller's views are unchanged -/
example :
    let h : Heap := [[105, 98, 99, 0, 0, 0, 0], [1, 2]]
    let pre : List Slice := [⟨1, 0, 2, 2⟩, ⟨0, 0, 3, 7⟩]
    (buildMerklePath h pre [47, 120]).map (fun r => (pre.map (·.view r.1), r.2.map (·.view r.1))) =
      some ([[1, 2], [105, 98, 99]], [[1, 2], [105, 98, 99, 47, 120]]) := by decide +kernel

end IbcVerif.C18
