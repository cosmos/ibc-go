/-
  C37 — Interchain-account hosts only execute authorized, atomic transactions.
  Model: IbcVerif/Model/Ica.lean, Part A (host/keeper/relay.go).
  The host application state `σ` and every message handler are universally quantified parameters.
-/
import IbcVerif.Model.Ica
import IbcVerif.Lemmas.Ica
namespace IbcVerif.C37
open IbcVerif.Ica

variable {σ : Type}

/-- **Execution decision.**  A packet's messages execute (result ok) iff the channel exists, an
    interchain account is registered for the packet's (connection, controller port), every message's
    type is on the allow list (`"*"` alone allows all), every signer of every message is that account,
    every ValidateBasic passes and every handler succeeds in order. -/
theorem ica_exec_iff (chanFound : Bool) (icaAddr : Option String) (allow : List String)
    (msgs : List (Msg σ)) (s : σ) :
    (executeTx chanFound icaAddr allow msgs s).2 = none ↔
      (chanFound = true ∧ ∃ a, icaAddr = some a ∧ (∀ m ∈ msgs, Authorized allow a m) ∧ HandlersOk msgs s) := by
  rw [executeTx_ok_iff, authenticateTx_none, runMsgs_ok_iff]
  simp only [← exists_and_right, and_assoc]

/-- **Atomicity.**  Whatever fails and wherever (authentication, ValidateBasic, routing, the k-th
    handler), the host state is exactly what it was: either all of the packet's messages take effect
    or none do. -/
theorem ica_atomic (chanFound : Bool) (icaAddr : Option String) (allow : List String)
    (msgs : List (Msg σ)) (s : σ) (e : ExecErr)
    (h : (executeTx chanFound icaAddr allow msgs s).2 = some e) :
    (executeTx chanFound icaAddr allow msgs s).1 = s := by
  unfold executeTx at *
  cases chanFound with
  | false => rfl
  | true =>
    cases hauth : authenticateTx icaAddr allow msgs with
    | some e' => rfl
    | none =>
      cases hrun : runMsgs msgs s with
      | error e' => rfl
      | ok s' => simp [hauth, hrun] at h

/-- **No message acts for another account.**  If the host state changed at all, the packet was
    authenticated in full: an account `a` is registered for the packet's connection and port and every
    signer of every message is `a` (and every type is allow-listed) — authentication of ALL messages
    precedes the execution of ANY. -/
theorem ica_no_foreign_signer (chanFound : Bool) (icaAddr : Option String) (allow : List String)
    (msgs : List (Msg σ)) (s : σ)
    (h : (executeTx chanFound icaAddr allow msgs s).1 ≠ s) :
    ∃ a, icaAddr = some a ∧ ∀ m ∈ msgs, Authorized allow a m := by
  cases hr : (executeTx chanFound icaAddr allow msgs s).2 with
  | some e => exact absurd (ica_atomic chanFound icaAddr allow msgs s e hr) h
  | none =>
    obtain ⟨_, a, ha, hall, _⟩ := (ica_exec_iff chanFound icaAddr allow msgs s).mp hr
    exact ⟨a, ha, hall⟩

/-- The code's treatment of a message WITHOUT signers, stated explicitly: the signer loop is vacuous,
    so such a message is authorized whenever its type is allow-listed ("every signer is the account"
    holds trivially). -/
theorem zero_signer_passes (allow : List String) (a : String) (m : Msg σ)
    (hs : m.signers = []) (ht : containsMsgType allow m.typeURL = true) : Authorized allow a m := by
  exact ⟨ht, by simp [hs]⟩

/-- The wildcard is honoured only as the sole allow-list entry. -/
theorem wildcard_only_alone :
    containsMsgType ["*"] "/any.Msg" = true ∧ containsMsgType ["*", "/a.B"] "/any.Msg" = false ∧
    containsMsgType [] "/any.Msg" = false := by decide +kernel

/-- non-vacuity: three messages, the third handler fails → nothing changes; with a working third
    handler all three effects are there; a foreign signer in the second message blocks even the first. -/
example :
    let mk (url : String) (signers : List String) (ok : Bool) (i : Nat) : Msg (List Nat) :=
      ⟨url, signers, true, true, fun s => if ok then some (s ++ [i]) else none⟩
    (executeTx true (some "ica") ["*"] [mk "/a" ["ica"] true 0, mk "/b" ["ica"] true 1, mk "/c" ["ica"] false 2] []
      = ([], some .handler)) ∧
    (executeTx true (some "ica") ["*"] [mk "/a" ["ica"] true 0, mk "/b" ["ica"] true 1, mk "/c" ["ica"] true 2] []
      = ([0, 1, 2], none)) ∧
    (executeTx true (some "ica") ["*"] [mk "/a" ["ica"] true 0, mk "/b" ["ica", "eve"] true 1] []
      = ([], some .wrongSigner)) := by
  decide +kernel

end IbcVerif.C37
