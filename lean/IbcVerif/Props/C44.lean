/-
  C44 — Genesis export/import preserves all protocol-observable IBC state.
  The model is IbcVerif/Model/Genesis.lean; the theory of sorted association lists and the
  field-by-field computation of import after export are in IbcVerif/Lemmas/Genesis.lean.

  Verdict for the unchanged code: the full statement is FALSE (`import_export_id_full_false`).
  What export->import keeps is characterised exactly (`import_export_loss`): everything except the
  state keyed by an identifier that is not a light client — in reachable states the v1 channel ids of
  OPEN UNORDERED channels acting as IBC-v2 aliases: their counterparty / config entries, the
  alias->client entry and all v2 packet state (commitments, receipts, acks, async packets).
  Outside that shape the round trip is the identity (`import_export_id_partial`), and that hypothesis
  is the weakest possible (`import_export_id_only_if`).
-/
import IbcVerif.Model.Genesis
import IbcVerif.Lemmas.Genesis
namespace IbcVerif.C44
open IbcVerif.Genesis

/-- The property as stated in properties.jsonl: exporting any well-formed ibc store and starting a
    fresh chain from the export (`initGenesis` = validation + `ibc.InitGenesis`; `none` = the chain
    panics at start) reproduces the store. FALSE of the code in two independent ways, see
    `import_export_id_full_false` (alias-keyed state is dropped) and
    `import_export_id_full_false_selfnamed` (the export of a valid state is rejected). -/
def import_export_id_full : Prop :=
  ∀ (env : Env) (s : State), WF env s → initGenesis env (exportG s) = some s

/-- Exact characterisation for every well-formed store that can be imported at all: export followed by
    import yields the store without its alias-keyed part (`dropAlias`) — nothing else is lost, changed
    or added. -/
theorem import_export_loss (env : Env) (s : State) (h : WF env s) (hv : ¬ SelfNamedCounterparty env s) :
    initGenesis env (exportG s) = some (dropAlias s) := by
  simp only [initGenesis, (valid_export_iff env s).2 hv, if_true, import_export_eq env s h]

/-- Exact characterisation of the import panic: the chain cannot start from its own export iff some
    light client has a v2 counterparty with the same client identifier as itself. -/
theorem import_panics_iff (env : Env) (s : State) :
    initGenesis env (exportG s) = none ↔ SelfNamedCounterparty env s := by
  rw [← Classical.not_not (a := SelfNamedCounterparty env s), ← valid_export_iff, initGenesis]
  split <;> simp [*]

/-- Partial statement that holds of the code: without alias-keyed state (and without a self-named
    counterparty) the round trip is the identity on clients (state, consensus states, metadata,
    counterparty, config, creator, connection paths), connections, channels, all sequences, v1 and v2
    commitments / receipts / acks / async packets, parameters and counters. -/
theorem import_export_id_partial (env : Env) (s : State) (h : WF env s) (hn : NoAliasState s)
    (hv : ¬ SelfNamedCounterparty env s) : initGenesis env (exportG s) = some s := by
  rw [import_export_loss env s h hv, (noAlias_iff s).1 hn]

/-- The two hypotheses are the weakest possible: whenever the round trip is the identity, they hold. -/
theorem import_export_id_only_if (env : Env) (s : State) (h : WF env s)
    (hid : initGenesis env (exportG s) = some s) : NoAliasState s ∧ ¬ SelfNamedCounterparty env s := by
  have hv : ¬ SelfNamedCounterparty env s := by
    intro hs
    rw [(import_panics_iff env s).2 hs] at hid
    cases hid
  rw [import_export_loss env s h hv] at hid
  exact ⟨(noAlias_iff s).2 (Option.some.inj hid), hv⟩

/-- Re-export: the genesis exported from the imported store equals the first export (the lost state
    is invisible to `ExportGenesis`, so the loss cannot be noticed by comparing genesis files). -/
theorem reexport_idempotent (env : Env) (s s' : State) (h : WF env s)
    (hi : initGenesis env (exportG s) = some s') : exportG s' = exportG s := by
  have hv : ¬ SelfNamedCounterparty env s := by
    intro hs
    rw [(import_panics_iff env s).2 hs] at hi
    cases hi
  rw [import_export_loss env s h hv] at hi
  rw [← Option.some.inj hi]
  exact export_dropAlias s

/-- The import is a fixed point after one round: importing the re-export changes nothing more. -/
theorem import_export_stable (env : Env) (s s' : State) (h : WF env s)
    (hi : initGenesis env (exportG s) = some s') : initGenesis env (exportG s') = some s' := by
  rw [reexport_idempotent env s s' h hi]
  exact hi

/-! ### the witness of finding F8 (`findings/F8-genesis-alias.diff`): one OPEN UNORDERED channel
    `channel-0` over client `07-tendermint-0`, its alias + counterparty, and one v2 packet sent with
    source client `channel-0`
    (replayed on the real code by the harness history `witness-alias-traffic`). -/

def witnessEnv : Env := { localhostConn := "h:lc", cpId := [("h:cparty", "channel-1"), ("h:cparty-self", "07-tendermint-0")] }

def witness : State :=
  { clientParams := "h:cp", nextClientSeq := "0000000000000001"
    cstore := [(("07-tendermint-0", "clientState"), "h:cs"),
               (("07-tendermint-0", "connections"), "h:paths"),
               (("07-tendermint-0", "consensusStates/1-5"), "h:cons"),
               (("07-tendermint-0", "consensusStates/1-5/processedHeight"), "h:ph"),
               (("07-tendermint-0", "creator"), "h:creator"),
               (("channel-0", "counterparty"), "h:cparty")]
    conns := [("connection-0", "h:conn"), ("connection-localhost", "h:lc")]
    connParams := "h:connp", nextConnSeq := "0000000000000001"
    chans := [(("mock", "channel-0"), "h:open-unordered")]
    nextRecv := [(("mock", "channel-0"), "0000000000000001")]
    nextAck := [(("mock", "channel-0"), "0000000000000001")]
    nextSend := [("channel-0", "0000000000000002")]
    commits := [], receipts := [], acks := []
    nextChanSeq := "0000000000000001"
    commits2 := [(("channel-0", 1), "h:commitment")]
    receipts2 := [], acks2 := [], async2 := []
    alias := [("channel-0", "h:07-tendermint-0")]
    other := [] }

/-- the witness is a well-formed store, so `import_export_id_full` speaks about it -/
theorem witness_wf : WF witnessEnv witness := (wfB_iff _ _).1 (by decide +kernel)

/-- the witness loses its alias entry, the counterparty under `channel-0` and the v2 commitment -/
theorem witness_lost :
    (importG witnessEnv (exportG witness)).alias = [] ∧
    (importG witnessEnv (exportG witness)).commits2 = [] ∧
    (("channel-0", "counterparty"), "h:cparty") ∉ (importG witnessEnv (exportG witness)).cstore ∧
    -- while the v1 side of the same channel, including its shared send sequence, survives
    (importG witnessEnv (exportG witness)).chans = witness.chans ∧
    (importG witnessEnv (exportG witness)).nextSend = witness.nextSend := by
  rw [import_export_eq _ _ witness_wf]
  decide +kernel

/-- The full statement is false of the code. -/
theorem import_export_id_full_false : ¬ import_export_id_full := by
  intro h
  have hs := h witnessEnv witness witness_wf
  rw [import_export_loss _ _ witness_wf ((valid_export_iff _ _).1 (by decide +kernel))] at hs
  have ha := congrArg State.alias (Option.some.inj hs)
  exact absurd ha.symm (List.cons_ne_nil _ _)

/-- second witness: a single light client `07-tendermint-0` whose registered v2 counterparty is the
    counterparty chain's client `07-tendermint-0` (harness history `witness-v2-same-client-id`). -/
def witnessSelf : State :=
  { clientParams := "h:cp", nextClientSeq := "0000000000000001"
    cstore := [(("07-tendermint-0", "clientState"), "h:cs"),
               (("07-tendermint-0", "consensusStates/1-5"), "h:cons"),
               (("07-tendermint-0", "counterparty"), "h:cparty-self"),
               (("07-tendermint-0", "creator"), "h:creator")]
    conns := [("connection-localhost", "h:lc")]
    connParams := "h:connp", nextConnSeq := "0000000000000000"
    chans := [], nextRecv := [], nextAck := []
    nextSend := [("07-tendermint-0", "0000000000000001")]
    commits := [], receipts := [], acks := []
    nextChanSeq := "0000000000000000"
    commits2 := [], receipts2 := [], acks2 := [], async2 := [], alias := [], other := [] }

/-- The full statement is also false without any alias: a well-formed, alias-free state whose export
    the importing chain rejects (it panics in `clientv2.InitGenesis`). -/
theorem import_export_id_full_false_selfnamed :
    WF witnessEnv witnessSelf ∧ NoAliasState witnessSelf ∧ initGenesis witnessEnv (exportG witnessSelf) = none :=
  ⟨(wfB_iff _ _).1 (by decide +kernel), (noAlias_iff _).2 (by decide +kernel), by decide +kernel⟩

/-- a non-trivial state satisfying the hypotheses of the partial theorem: a light client with
    consensus state, metadata, v2 counterparty / config / creator and v2 packet state under the client
    id, a connection, an ORDERED channel with v1 packet state. -/
def plain : State :=
  { clientParams := "h:cp", nextClientSeq := "0000000000000002"
    cstore := [(("07-tendermint-0", "clientState"), "h:cs"),
               (("07-tendermint-0", "config"), "h:cfg"),
               (("07-tendermint-0", "connections"), "h:paths"),
               (("07-tendermint-0", "consensusStates/1-5"), "h:cons"),
               (("07-tendermint-0", "consensusStates/1-5/processedTime"), "h:pt"),
               (("07-tendermint-0", "counterparty"), "h:cparty"),
               (("07-tendermint-0", "creator"), "h:creator")]
    conns := [("connection-0", "h:conn"), ("connection-localhost", "h:lc")]
    connParams := "h:connp", nextConnSeq := "0000000000000001"
    chans := [(("mock", "channel-0"), "h:open-ordered")]
    nextRecv := [(("mock", "channel-0"), "0000000000000002")]
    nextAck := [(("mock", "channel-0"), "0000000000000001")]
    nextSend := [("07-tendermint-0", "0000000000000003"), ("channel-0", "0000000000000002")]
    commits := [(("mock", "channel-0", 1), "h:c1")]
    receipts := [(("mock", "channel-0", 1), "01")]
    acks := [(("mock", "channel-0", 1), "h:a1")]
    nextChanSeq := "0000000000000001"
    commits2 := [(("07-tendermint-0", 1), "h:c2"), (("07-tendermint-0", 2), "h:c3")]
    receipts2 := [(("07-tendermint-0", 1), "02")]
    acks2 := [(("07-tendermint-0", 1), "h:a2")]
    async2 := [(("07-tendermint-0", 2), "h:async")]
    alias := [], other := [] }

example : WF witnessEnv plain := (wfB_iff _ _).1 (by decide +kernel)

example : NoAliasState plain := (noAlias_iff plain).2 (by decide +kernel)

example : ¬ SelfNamedCounterparty witnessEnv plain := (valid_export_iff _ _).1 (by decide +kernel)

example : initGenesis witnessEnv (exportG plain) = some plain :=
  import_export_id_partial _ _ ((wfB_iff _ _).1 (by decide +kernel)) ((noAlias_iff plain).2 (by decide +kernel))
    ((valid_export_iff _ _).1 (by decide +kernel))

/-- the witness violates `NoAliasState` (so the partial theorem does not cover it) -/
example : ¬ NoAliasState witness := fun h => absurd h.alias (List.cons_ne_nil _ _)

end IbcVerif.C44
