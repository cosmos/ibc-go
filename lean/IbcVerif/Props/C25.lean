/-
  C25 — Client recovery and upgrade are gated and touch only the subject.
  Property theorems only (model: IbcVerif/Model/Tm*.lean; lemmas: IbcVerif/Lemmas/Tm*.lean).

  `recoverStore sj sb now` is `Keeper.RecoverClient` + `LightClientModule.RecoverClient` +
  `CheckSubstituteAndUpdateState` on the subject's store `sj` given the substitute's store `sb`;
  `upgradeStore s now self u` is `Keeper.UpgradeClient` + `VerifyUpgradeAndUpdateState`, where the two
  ICS-23 verdicts (`u.proofClientOK`, `u.proofConsOK`: membership of the ZeroCustomFields'd upgraded client
  resp. the upgraded consensus state under the client's upgrade path at its latest height, against the
  latest consensus root) are parameters. Both ids are 07-tendermint ids (the type check is C46/C16's).
-/
import IbcVerif.Lemmas.TmGate
namespace IbcVerif.C25
open IbcVerif IbcVerif.Tm

/-- **Recovery succeeds iff** the subject exists and is not Active, the substitute is Active, the
    substitute's latest height is strictly greater, and the client states match (next theorem).
    (An Active substitute has consensus state + metadata at its latest height by the store invariant.) -/
theorem recover_success_iff (sj sb : Store) (hb : MetaInv sb) (now : Int) :
    (recoverStore sj sb now).2 = "ok" ↔
      ∃ cs scs, sj.client = some cs ∧ sb.client = some scs ∧ sj.status now ≠ .active ∧ sb.status now = .active ∧
        hk cs.latest < hk scs.latest ∧ isMatchingClientState cs scs = true := by
  refine ⟨fun h => ?_, fun ⟨cs, scs, hc, hsc, h1, h2, hlt, hm⟩ => ?_⟩
  · rcases recoverStore_cases sj sb hb now with ⟨_, hne⟩ | ⟨cs, scs, _, _, _, a1, a2, a3, a4, a5, a6, _⟩
    · exact absurd h hne
    · exact ⟨cs, scs, a1, a2, a3, a4, a5, a6⟩
  · obtain ⟨scs', c, hsc', _, hg, _⟩ := (status_active_iff sb now).mp h2
    rw [hsc] at hsc'; cases hsc'
    obtain ⟨ph, hph⟩ := Option.isSome_iff_exists.mp ((hb.pheight scs.latest).mpr (has_of_getCons hg))
    obtain ⟨pt, hpt⟩ := Option.isSome_iff_exists.mp ((hb.ptime scs.latest).mpr (has_of_getCons hg))
    have h3 : sj.latestHeight.gte sb.latestHeight = false := by
      rw [gte_eq_false_iff_hk, latestHeight_of_client hc, latestHeight_of_client hsc]; exact hlt
    simp [recoverStore, checkSubstituteAndUpdateState, h1, h2, h3, hc, hsc, hm, hg, hph, hpt]

/-- **`IsMatchingClientState`**: every field must be equal except latest height, frozen height, trusting
    period, chain id and the two deprecated flags -/
theorem matching_fields (a b : ClientState) : isMatchingClientState a b = true ↔
    (a.tlNum = b.tlNum ∧ a.tlDen = b.tlDen ∧ a.unbondingPeriod = b.unbondingPeriod ∧ a.maxClockDrift = b.maxClockDrift ∧
     a.proofSpecs = b.proofSpecs ∧ a.upgradePath = b.upgradePath) := by
  unfold isMatchingClientState
  cases a; cases b
  simp only [decide_eq_true_eq, ClientState.mk.injEq, and_true, true_and]

/-- a failed recovery writes nothing -/
theorem recover_failure_no_effect (sj sb : Store) (hb : MetaInv sb) (now : Int)
    (h : (recoverStore sj sb now).2 ≠ "ok") : (recoverStore sj sb now).1 = sj := by
  rcases recoverStore_cases sj sb hb now with ⟨e, _⟩ | ⟨_, _, _, _, _, _, _, _, _, _, _, _, _, _, e⟩
  · exact e
  · rw [e] at h; exact absurd rfl h

/-- **Effect of a successful recovery**: the subject is unfrozen, takes the substitute's latest height,
    chain id and trusting period, receives the substitute's latest consensus state with its processed
    time and height (and an iteration entry) at that height — and nothing else changes: every other field
    of the client state and every other height keep their values. Afterwards the subject is Active. -/
theorem recover_effect (sj sb : Store) (hb : MetaInv sb) (now : Int) (h : (recoverStore sj sb now).2 = "ok") :
    ∃ cs scs, sj.client = some cs ∧ sb.client = some scs ∧
      let s' := (recoverStore sj sb now).1
      s'.client = some { cs with frozen := Height.zero, latest := scs.latest, chainId := scs.chainId,
                                 trustingPeriod := scs.trustingPeriod } ∧
      s'.getCons scs.latest = sb.getCons scs.latest ∧ s'.ptime.get scs.latest = sb.ptime.get scs.latest ∧
      s'.pheight.get scs.latest = sb.pheight.get scs.latest ∧ (s'.getCons scs.latest).isSome = true ∧
      (∀ h', h' ≠ scs.latest → s'.getCons h' = sj.getCons h' ∧ s'.ptime.get h' = sj.ptime.get h' ∧
        s'.pheight.get h' = sj.pheight.get h') ∧
      s'.status now = .active := by
  rcases recoverStore_cases sj sb hb now with ⟨_, hne⟩ | ⟨cs, scs, c, ph, pt, a1, a2, a3, a4, a5, a6, g1, g2, g3, e⟩
  · exact absurd h hne
  · refine ⟨cs, scs, a1, a2, ?_⟩
    simp only [e]
    have hz0 : hk Height.zero = 0 := by simp [hk, Height.zero]
    have hclient : (recoveredStore cs scs sj c ph pt now).client =
        some { cs with frozen := Height.zero, latest := scs.latest, chainId := scs.chainId, trustingPeriod := scs.trustingPeriod } := by
      show some (recoveredClient cs scs (decide (sj.status now = Status.frozen))) = _
      unfold recoveredClient
      by_cases hf : sj.status now = Status.frozen
      · simp [hf]
      · -- a subject that is not Frozen has frozen height zero already
        have z : hk cs.frozen = 0 := Decidable.not_not.mp fun z => hf ((status_frozen_iff sj now).mpr ⟨cs, a1, z⟩)
        simp only [hf, decide_false, Bool.false_eq_true, ↓reduceIte]
        rw [← hk_inj.mp (z.trans hz0.symm)]
    obtain ⟨i1, i2, i3, i4⟩ := insert_effect { sj with client := (recoveredStore cs scs sj c ph pt now).client } scs.latest c ph pt
    refine ⟨hclient, i1.trans g1.symm, i2.trans g3.symm, i3.trans g2.symm, i1 ▸ rfl, i4, ?_⟩
    · -- Active: same consensus state and trusting period as the Active substitute
      obtain ⟨scs', c', hsc', _, hg', hlt'⟩ := (status_active_iff sb now).mp a4
      rw [a2] at hsc'; cases hsc'
      rw [g1] at hg'; cases hg'
      apply (status_active_iff _ now).mpr
      exact ⟨_, c, hclient, hz0, i1, hlt'⟩

/-- **Upgrade succeeds iff** the client exists and is Active, both byte strings decode, the new latest
    height is strictly greater, the client has an upgrade path, both proofs decode and verify (under the
    committed upgrade path at the client's latest height against its latest consensus root), and the
    resulting client state validates. -/
theorem upgrade_success_iff (s : Store) (now : Int) (self : Height) (u : UpgradeReq) :
    (upgradeStore s now self u).2 = "ok" ↔
      ∃ cs, s.client = some cs ∧ s.status now = .active ∧ u.clientBzOK = true ∧ u.consBzOK = true ∧
        hk cs.latest < hk u.newClient.latest ∧ cs.upgradePath.isEmpty = false ∧
        u.proofClientParse = true ∧ u.proofConsParse = true ∧ u.proofClientOK = true ∧ u.proofConsOK = true ∧
        (upgradedClient cs u).validate = none := by
  refine ⟨fun h => ?_, fun ⟨cs, hc, hst, h1, h2, hlt, a1, a2, a3, a5, a6, a7⟩ => ?_⟩
  · rcases upgradeStore_cases s now self u with ⟨_, hne⟩ | ⟨cs, a1, a2, a3, a4, a5, a6, a7, a8, a9, a10, a11, _⟩
    · exact absurd h hne
    · exact ⟨cs, a1, a2, a3, a4, a5, a6, a7, a8, a9, a10, a11⟩
  · obtain ⟨cs', c0, hc', _, hg0, _⟩ := (status_active_iff s now).mp hst
    rw [hc] at hc'; cases hc'
    unfold upgradedClient at a7
    simp only [upgradeStore, verifyUpgradeAndUpdateState, hst, h1, h2, hc, (gt_iff_hk _ _).mpr hlt, a1, a2, a3, hg0, a5, a6, a7]
    simp

theorem upgrade_failure_no_effect (s : Store) (now : Int) (self : Height) (u : UpgradeReq)
    (h : (upgradeStore s now self u).2 ≠ "ok") : (upgradeStore s now self u).1 = s := by
  rcases upgradeStore_cases s now self u with ⟨e, _⟩ | ⟨_, _, _, _, _, _, _, _, _, _, _, _, e⟩
  · exact e
  · rw [e] at h; exact absurd rfl h

/-- **Effect of a successful upgrade**: chain-chosen fields (chain id, unbonding period, latest height,
    proof specs, upgrade path) come from the committed client; the client's own trust level and clock
    drift are kept; the trusting period is kept, or scaled by `calculateNewTrustingPeriod` iff the
    unbonding period shrank; the client is unfrozen with cleared deprecated flags; the new consensus
    state (committed timestamp and next-validators hash, sentinel root) and its metadata (current block
    height and time) are written at the new latest height; every other height is unchanged. -/
theorem upgrade_effect (s : Store) (now : Int) (self : Height) (u : UpgradeReq) (h : (upgradeStore s now self u).2 = "ok") :
    ∃ cs, s.client = some cs ∧
      let s' := (upgradeStore s now self u).1
      s'.client = some
        { chainId := u.newClient.chainId, unbondingPeriod := u.newClient.unbondingPeriod, latest := u.newClient.latest,
          proofSpecs := u.newClient.proofSpecs, upgradePath := u.newClient.upgradePath,
          tlNum := cs.tlNum, tlDen := cs.tlDen, maxClockDrift := cs.maxClockDrift,
          trustingPeriod := if u.newClient.unbondingPeriod < cs.unbondingPeriod then
              (calculateNewTrustingPeriod cs.trustingPeriod.toNat cs.unbondingPeriod.toNat u.newClient.unbondingPeriod.toNat : Int)
            else cs.trustingPeriod,
          frozen := Height.zero, allowExpiry := false, allowMisb := false } ∧
      s'.getCons u.newClient.latest = some ⟨u.newCons.ts, sentinelRootHex, u.newCons.nvh⟩ ∧
      s'.ptime.get u.newClient.latest = some now.toNat ∧ s'.pheight.get u.newClient.latest = some self ∧
      (∀ h', h' ≠ u.newClient.latest → s'.getCons h' = s.getCons h' ∧ s'.ptime.get h' = s.ptime.get h' ∧
        s'.pheight.get h' = s.pheight.get h') := by
  rcases upgradeStore_cases s now self u with ⟨_, hne⟩ | ⟨cs, a1, _, _, _, _, _, _, _, _, _, _, e⟩
  · exact absurd h hne
  · refine ⟨cs, a1, ?_⟩
    simp only [e]
    exact ⟨rfl, insert_effect { s with client := some (upgradedClient cs u) } u.newClient.latest _ self now.toNat⟩

/-- **Trusting-period scaling is exact**: for unbonding periods below 10^18 ns (≈ 31.7 years) the new
    trusting period is `⌊trustingPeriod · newUnbonding / oldUnbonding⌋` (the 18-decimal round-half-even of
    `LegacyDec.Quo` never reaches the next integer); in particular it never exceeds the old one when the
    unbonding period shrinks -/
theorem trusting_period_scaling (tp ou nu : Nat) (h0 : 0 < ou) (h1 : ou < 10 ^ 18) :
    calculateNewTrustingPeriod tp ou nu = tp * nu / ou ∧ (nu ≤ ou → calculateNewTrustingPeriod tp ou nu ≤ tp) := by
  have e := calcTP_floor tp ou nu h0 h1
  refine ⟨e, fun hle => ?_⟩
  rw [e]
  calc tp * nu / ou ≤ tp * ou / ou := Nat.div_le_div_right (Nat.mul_le_mul_left tp hle)
    _ = tp := Nat.mul_div_cancel tp h0

/-- relayer-chosen fields of the submitted client state (trust level, trusting period, clock drift,
    frozen height, deprecated flags) have no influence on the upgraded client state -/
theorem upgrade_ignores_relayer_fields (cs : ClientState) (u u' : UpgradeReq)
    (h1 : u.newClient.chainId = u'.newClient.chainId) (h2 : u.newClient.unbondingPeriod = u'.newClient.unbondingPeriod)
    (h3 : u.newClient.latest = u'.newClient.latest) (h4 : u.newClient.proofSpecs = u'.newClient.proofSpecs)
    (h5 : u.newClient.upgradePath = u'.newClient.upgradePath) :
    upgradedClient cs u = upgradedClient cs u' := by
  unfold upgradedClient
  rw [h1, h2, h3, h4, h5]

/-- **Neither operation changes any other client** (substitute and bystanders included), nor the
    chain's clock or client counter -/
theorem others_untouched (w : World) (op : Op) (subject : Nat)
    (hop : (∃ b, op = .recover subject b) ∨ (∃ u, op = .upgrade subject u)) :
    (∀ cid, cid ≠ subject → (step w op).1.client cid = w.client cid) ∧
    (step w op).1.now = w.now ∧ (step w op).1.self = w.self ∧ (step w op).1.nextSeq = w.nextSeq := by
  rcases hop with ⟨b, e⟩ | ⟨u, e⟩ <;> subst e <;>
    exact ⟨fun cid hne => client_put_ne _ _ _ _ (Ne.symm hne), rfl, rfl, rfl⟩

/-! ### non-vacuity: a frozen subject recovered through an Active substitute; bystander untouched -/

def exNv : String := String.ofList (List.replicate 64 'a')
def exRoot : String := String.ofList (List.replicate 64 'c')
def exCs (latest : Height) (frozen : Height) (chain : String) : ClientState :=
  { chainId := chain, tlNum := 1, tlDen := 3, trustingPeriod := 1000000000000, unbondingPeriod := 1500000000000,
    maxClockDrift := 10000000000, frozen := frozen, latest := latest, proofSpecs := some "sdk", upgradePath := ["upgrade"],
    allowExpiry := false, allowMisb := false }
def exW : World :=
  { clients := [(0, initClient (exCs ⟨1, 5⟩ ⟨0, 1⟩ "simchain-1") ⟨3000000000, exRoot, exNv⟩ 3000000001 ⟨1, 1⟩),
                (1, initClient (exCs ⟨1, 9⟩ ⟨0, 0⟩ "otherchain-1") ⟨3000000000, exRoot, exNv⟩ 3000000001 ⟨1, 1⟩),
                (2, initClient (exCs ⟨1, 9⟩ ⟨0, 0⟩ "simchain-1") ⟨3000000000, exRoot, exNv⟩ 3000000001 ⟨1, 1⟩)],
    nextSeq := 3, now := 3000000002, self := ⟨1, 2⟩ }

example : (step exW (.recover 0 1)).2 = "ok" ∧
    ((step exW (.recover 0 1)).1.client 0).status 3000000002 = .active ∧
    ((step exW (.recover 0 1)).1.client 0).latestHeight = ⟨1, 9⟩ ∧
    (step exW (.recover 1 0)).2 = "err:invalid-recovery-client" ∧
    (step exW (.recover 0 0)).2 = "err:client-not-active" := by decide +kernel

end IbcVerif.C25
