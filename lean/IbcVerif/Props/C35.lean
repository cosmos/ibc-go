/-
  C35 — Packet data encodings round-trip; decoding never panics.
  Models in IbcVerif/Model/{Abi,AbiAmount,Proto,Panic}.lean; the tuple coder, the varint and field
  loops and the amount parser are treated in IbcVerif/Lemmas/{AbiBytes,Abi,AbiAtt,AbiCodec,AbiAmount,Proto*}.lean.

  Scope.  Solidity-ABI (go-ethereum `accounts/abi` as called by ibc-go) and protobuf (the
  generated `Unmarshal` + cosmos-sdk `RejectUnknownFieldsStrict`) are modelled and proved here for
  ICS-20 `FungibleTokenPacketData`, GMP `GMPPacketData` / `Acknowledgement` and the attestation
  light client's `StateAttestation` / `PacketAttestation`.  JSON goes through `encoding/json`:
  its round trip and panic-freedom are validated by the harness monitor only (no model, no theorem).
  "Never panics" is a statement about the model in which every Go index/slice expression of the
  decoders is an explicit panicking primitive (`G.slice`, `G.index`); the harness ties it to the
  real code by feeding mutated and random bytes to every decoder under `recover()`.
  `GoLen b` (`b.length < 2^63`) holds of every Go byte slice; the decoders' `int64` guards make
  the round trip false without it.
-/
import IbcVerif.Model.Abi
import IbcVerif.Model.AbiAmount
import IbcVerif.Model.Proto
import IbcVerif.Lemmas.AbiCodec
import IbcVerif.Lemmas.AbiAmount
import IbcVerif.Lemmas.ProtoTotal
namespace IbcVerif.C35
open IbcVerif IbcVerif.Abi

/-- a length every Go slice has -/
def GoLen (b : Bytes) : Prop := b.length < 2 ^ 63

/-- ABI round trip for every ICS-20 value whose amount is a canonical decimal below 2^256 (what
    ibc-go itself writes into a packet): encoding succeeds and decoding returns the same value. -/
theorem abi_roundtrip (denom sender receiver memo : Bytes) (n : Nat) (hn : n < 2 ^ 256)
    (hlen : GoLen (packWrapped [.dyn denom, .dyn sender, .dyn receiver, .num n, .dyn memo])) :
    ∃ bz, encodeFtpd ⟨denom, dec n, sender, receiver, memo⟩ = .ok bz ∧
      decodeFtpd bz = .ok ⟨denom, dec n, sender, receiver, memo⟩ := by
  refine ⟨_, ?_, decodeFtpd_pack denom sender receiver memo n hn hlen⟩
  simp [encodeFtpd, newIntFromString_dec n hn]

/-- ABI round trip for any amount spelling the encoder accepts (`sdkmath.NewIntFromString`: base
    prefixes, leading zeros, `+`, digit separators): the decoded amount is the canonical decimal of
    the integer read; all other fields are returned unchanged. -/
theorem abi_roundtrip_any_spelling (d : Ftpd) (n : Nat) (hp : newIntFromString d.amount = some (false, n))
    (hlen : GoLen (packWrapped [.dyn d.denom, .dyn d.sender, .dyn d.receiver, .num n, .dyn d.memo])) :
    ∃ bz, encodeFtpd d = .ok bz ∧ decodeFtpd bz = .ok ⟨d.denom, dec n, d.sender, d.receiver, d.memo⟩ := by
  refine ⟨_, ?_, decodeFtpd_pack d.denom d.sender d.receiver d.memo n (newIntFromString_lt hp) hlen⟩
  unfold encodeFtpd
  rw [hp]
  simp

/-- the ICS-20 ABI decoder is total: on every byte string it returns a value or an error; no slice
    expression of `toGoType` / `lengthPrefixPointsTo` / `tuplePointsTo` goes out of bounds -/
theorem abi_decode_total (data : Bytes) : G.NoPanic (decodeFtpd data) := decodeFtpd_noPanic data

/-- two packet-data values denote the same transfer: same denom, sender, receiver, memo and the same
    amount *as the integer every ICS-20 consumer reads* (`sdkmath.NewIntFromString`) -/
def SameTransfer (x y : Ftpd) : Prop :=
  x.denom = y.denom ∧ x.sender = y.sender ∧ x.receiver = y.receiver ∧ x.memo = y.memo ∧
    newIntFromString x.amount = newIntFromString y.amount

/-- The full statement of the property for the ABI encoding: every value with a valid amount
    (`ValidateBasic`'s amount check, whatever its spelling) encodes, and decoding gives the same
    transfer.  `hlen` is `GoLen` of the encoding; it is asked for every `n` because the amount word is
    known only after `x.amount` is read (the length does not depend on `n`).  (Before fix 6129489 this was false of the code — the encoder read the amount in base
    10, `ValidateBasic` in base 0: "010" was validated as 8 and encoded as 10; the witnesses "010"
    and "0x10" are kept as regression inputs of the harness monitor.) -/
theorem abi_same_transfer_full (x : Ftpd) (hv : (validAmount x.amount).isSome)
    (hlen : ∀ n, GoLen (packWrapped [.dyn x.denom, .dyn x.sender, .dyn x.receiver, .num n, .dyn x.memo])) :
    ∃ bz y, encodeFtpd x = .ok bz ∧ decodeFtpd bz = .ok y ∧ SameTransfer x y := by
  obtain ⟨n, hn⟩ : ∃ n, newIntFromString x.amount = some (false, n) := by
    unfold validAmount at hv
    split at hv
    · rename_i n heq; exact ⟨n, heq⟩
    · cases hv
  obtain ⟨bz, he, hd⟩ := abi_roundtrip_any_spelling x n hn (hlen n)
  exact ⟨bz, _, he, hd, rfl, rfl, rfl, rfl, by rw [hn]; exact (newIntFromString_dec n (newIntFromString_lt hn)).symm⟩

/-- GMP packet data: ABI decode ∘ encode = id, also through `UnmarshalPacketData`'s re-encoding check -/
theorem gmp_abi_roundtrip (d : Gmp) (hlen : GoLen (encodeGmp d)) :
    decodeGmp (encodeGmp d) = .ok d ∧ unmarshalGmpAbi (encodeGmp d) = .ok d := by
  have h : decodeGmp (encodeGmp d) = .ok d := by
    unfold decodeGmp encodeGmp
    rw [unpackWrapped_pack gmpTys _ (by simp [gmpTys, Fits, fits]) hlen]
    rfl
  refine ⟨h, ?_⟩
  unfold unmarshalGmpAbi
  rw [h, G.bind_ok, if_pos rfl]

/-- GMP acknowledgement: ABI decode ∘ encode = id -/
theorem gmp_ack_abi_roundtrip (r : Bytes) (hlen : GoLen (encodeAck r)) :
    decodeAck (encodeAck r) = .ok r ∧ unmarshalAckAbi (encodeAck r) = .ok r := by
  have h : decodeAck (encodeAck r) = .ok r := by
    unfold decodeAck encodeAck
    rw [unpackWrapped_pack [.dyn] _ (by simp [Fits, fits]) hlen]
    rfl
  refine ⟨h, ?_⟩
  unfold unmarshalAckAbi
  rw [h, G.bind_ok, if_pos rfl]

/-- the GMP ABI decoders are total -/
theorem gmp_abi_decode_total (data : Bytes) :
    G.NoPanic (decodeGmp data) ∧ G.NoPanic (unmarshalGmpAbi data) ∧
    G.NoPanic (decodeAck data) ∧ G.NoPanic (unmarshalAckAbi data) :=
  ⟨decodeGmp_noPanic data,
    G.noPanic_bind _ _ (decodeGmp_noPanic _) fun _ _ => G.noPanic_ite (fun _ => G.noPanic_ok _) fun _ => G.noPanic_err _,
    decodeAck_noPanic data,
    G.noPanic_bind _ _ (decodeAck_noPanic _) fun _ _ => G.noPanic_ite (fun _ => G.noPanic_ok _) fun _ => G.noPanic_err _⟩

/-- `StateAttestation`: the encoding carries whole seconds, so the round trip returns the timestamp
    truncated to seconds … -/
theorem state_attestation_roundtrip_trunc (s : StateAtt) (hh : s.height < 2 ^ 64) (ht : s.timestamp < 2 ^ 64) :
    decodeState (encodeState s) = .ok ⟨s.height, s.timestamp / nanosPerSecond * nanosPerSecond⟩ := by
  unfold decodeState encodeState
  have hsec : s.timestamp / nanosPerSecond < 2 ^ 64 := Nat.lt_of_le_of_lt (Nat.div_le_self _ _) ht
  have := unpackStatic_pack [.uint64, .uint64] [s.height, s.timestamp / nanosPerSecond] (by simp)
    (by simp [Fits, fits, hh, hsec]) (by rw [packStatic_length]; simp)
  rw [this]
  simp only [List.map, G.bind_ok]
  have hle : s.timestamp / nanosPerSecond * nanosPerSecond ≤ s.timestamp := Nat.div_mul_le_self _ _
  have hdiv : s.timestamp / nanosPerSecond ≤ (2 ^ 64 - 1) / nanosPerSecond := Nat.div_le_div_right (by omega)
  rw [if_neg (by omega), Nat.mod_eq_of_lt (by omega)]

/-- … and is the identity on every value representable in the encoding (whole-second timestamps) -/
theorem state_attestation_roundtrip (s : StateAtt) (hh : s.height < 2 ^ 64) (ht : s.timestamp < 2 ^ 64)
    (hsec : s.timestamp % nanosPerSecond = 0) : decodeState (encodeState s) = .ok s := by
  rw [state_attestation_roundtrip_trunc s hh ht, Nat.div_mul_cancel (Nat.dvd_of_mod_eq_zero hsec)]

/-- `PacketAttestation`: identity on every value representable in the encoding (32-byte path and
    commitment words; other lengths are truncated / zero-padded by `bytesToBytes32`) -/
theorem packet_attestation_roundtrip (a : PacketAtt) (hh : a.height < 2 ^ 64)
    (h32 : ∀ p ∈ a.packets, p.path.length = 32 ∧ p.commitment.length = 32) (hlen : GoLen (encodePacketAtt a)) :
    decodePacketAtt (encodePacketAtt a) = .ok a := by
  have : a.packets.map normCompact = a.packets :=
    (List.map_congr_left fun p hp => by
      rw [normCompact, bytes32_of_length _ (h32 p hp).1, bytes32_of_length _ (h32 p hp).2]; rfl).trans (List.map_id _)
  rw [decodePacketAtt_encode a hh hlen, this]

/-- the attestation decoders are total -/
theorem attestation_decode_total (data : Bytes) :
    G.NoPanic (decodeState data) ∧ G.NoPanic (decodePacketAtt data) := by
  refine ⟨G.noPanic_bind _ _ (unpackStatic_noPanic _ _) fun vs _ => ?_, ?_⟩
  · split
    · exact G.noPanic_ite_err fun _ => G.noPanic_ok _
    · exact G.noPanic_err _
  unfold decodePacketAtt
  refine G.noPanic_ite_err fun _ => G.noPanic_ite_err fun h => G.noPanic_slice (by omega) (by omega) <|
    G.noPanic_ite_err fun _ => G.noPanic_ite_err fun _ => G.noPanic_sliceFrom (by omega) <|
    G.noPanic_bind _ _ (toGo_noPanic _ _ _) fun hv _ => G.noPanic_ite_err fun h5 =>
    G.noPanic_bind _ _ (lpp_noPanic 32 _ (by omega)) fun ⟨b, l⟩ he =>
    G.noPanic_sliceFrom (Nat.le_trans (Nat.le_add_right b l) (lpp_bounds he).2) <|
    G.noPanic_bind _ _ (G.noPanic_ite_err fun _ => unpackCompacts_noPanic _ _ _) fun ps _ => ?_
  cases hv
  · exact G.noPanic_ok _
  · exact G.noPanic_err _

/-! ## protobuf — messages with `k` string/bytes fields numbered `1..k`
    (`k = 5`: ICS-20 `FungibleTokenPacketData`, `GMPPacketData`; `k = 1`: GMP `Acknowledgement`) -/

/-- protobuf round trip: the marshalled bytes pass `RejectUnknownFieldsStrict`, the generated
    `Unmarshal` returns the value (all fields, hence the amount string verbatim), and GMP's
    re-marshalling check accepts -/
theorem proto_roundtrip (k : Nat) (hk : k < 2 ^ 31) (vals : List Bytes) (hl : vals.length = k)
    (hlen : GoLen (Proto.encode vals)) :
    Proto.decode k (Proto.encode vals) = .ok vals ∧ Proto.decodeCanonical k (Proto.encode vals) = .ok vals := by
  have h : Proto.decode k (Proto.encode vals) = .ok vals := by
    unfold Proto.decode
    rw [Proto.rejectUnknown_encode k hk vals hl fun v hv => Nat.lt_of_le_of_lt (Proto.encode_field_le vals v hv)
      (Nat.lt_trans hlen (by decide)), G.bind_ok]
    exact Proto.unmarshal_encode k hk vals hl hlen
  refine ⟨h, ?_⟩
  unfold Proto.decodeCanonical
  rw [h, G.bind_ok, if_pos rfl]

/-- protobuf decoding rejects unknown fields: after any sequence of well-formed known fields, a tag
    whose field number is not in `1..k` (any wire type, any continuation) makes decoding fail -/
theorem proto_rejects_unknown_fields (k : Nat) (hk : k < 2 ^ 31) (fs : List (Nat × Bytes)) (num wt : Nat) (rest : Bytes)
    (hfs : ∀ f ∈ fs, 1 ≤ f.1 ∧ f.1 ≤ k ∧ f.2.length < 2 ^ 64)
    (hwt : wt < 8) (htag : num * 8 + wt < 2 ^ 64) (hnum : num = 0 ∨ k < num) :
    (∃ e, Proto.decode k (Proto.encRaws fs ++ (Proto.encVarint (num * 8 + wt) ++ rest)) = .err e) ∧
    (∃ e, Proto.decodeCanonical k (Proto.encRaws fs ++ (Proto.encVarint (num * 8 + wt) ++ rest)) = .err e) := by
  have hat : HasAt (Proto.encRaws fs ++ (Proto.encVarint (num * 8 + wt) ++ rest)) 0
      (Proto.encRaws fs ++ Proto.encVarint (num * 8 + wt)) := by
    rw [← List.append_assoc]; exact HasAt.zero _ rest
  generalize Proto.encRaws fs ++ (Proto.encVarint (num * 8 + wt) ++ rest) = d at hat ⊢
  have hle := hat.le
  have hge := Proto.encRaws_length_ge fs
  rw [List.length_append] at hle
  obtain ⟨e, he⟩ := Proto.rejectLoop_unknown k hk d fs (d.length + 1) 0 num wt hat hfs hwt htag hnum (by omega)
  have hd : Proto.decode k d = .err e := by
    unfold Proto.decode Proto.rejectUnknown
    rw [he]; rfl
  refine ⟨⟨e, hd⟩, e, ?_⟩
  unfold Proto.decodeCanonical
  rw [hd]; rfl

/-- protobuf decoding is total (both passes; `dAtA[iNdEx]` and `dAtA[iNdEx:postIndex]` of the
    generated code are always in range) -/
theorem proto_decode_total (k : Nat) (data : Bytes) :
    G.NoPanic (Proto.decode k data) ∧ G.NoPanic (Proto.decodeCanonical k data) ∧ G.NoPanic (Proto.unmarshal k data) :=
  have hd : G.NoPanic (Proto.decode k data) :=
    G.noPanic_bind _ _ (Proto.rejectLoop_noPanic _ _ _ _) fun _ _ => Proto.unmarshalLoop_noPanic _ _ _ _ _
  ⟨hd, G.noPanic_bind _ _ hd fun _ _ => G.noPanic_ite (fun _ => G.noPanic_ok _) fun _ => G.noPanic_err _,
    Proto.unmarshalLoop_noPanic _ _ _ _ _⟩

/-- a concrete transfer round-trips through the ABI (amount 2^256−1, the largest representable) -/
example : ∃ bz, encodeFtpd ⟨[117], dec (2 ^ 256 - 1), [97], [98], [123, 125]⟩ = .ok bz ∧
    decodeFtpd bz = .ok ⟨[117], dec (2 ^ 256 - 1), [97], [98], [123, 125]⟩ :=
  abi_roundtrip [117] [97] [98] [123, 125] (2 ^ 256 - 1) (by decide)
    (by unfold GoLen; rw [packWrapped_length]; simp [encTails, FVal.tail, encDyn_length, ceil32])

/-- the hypothesis of `abi_same_transfer_full` is satisfiable by non-canonical spellings too
    ("010" is valid and reads as 8, "0x10" as 16, "+5" as 5) -/
example : validAmount ['0', '1', '0'] = some 8 ∧ validAmount ['0', 'x', '1', '0'] = some 16 ∧
    validAmount ['+', '5'] = some 5 := by decide

/-- a message of known fields (some empty) round-trips; an unknown field 6 after a known field 1 is rejected -/
example : Proto.decode 5 (Proto.encode [[1], [], [2, 3], [], []]) = .ok [[1], [], [2, 3], [], []] ∧
    ∃ e, Proto.decode 5 (Proto.encRaws [(1, [1])] ++ (Proto.encVarint (6 * 8 + 2) ++ [0])) = .err e :=
  ⟨(proto_roundtrip 5 (by decide) _ rfl (by
      simp [GoLen, Proto.encode, Proto.encFieldsFrom, Proto.encField, Proto.tagOf, Proto.encVarint_lt])).1,
   (proto_rejects_unknown_fields 5 (by decide) [(1, [1])] 6 2 [0] (by simp) (by decide) (by decide) (by decide)).1⟩

end IbcVerif.C35
