/-
  C47 — Stateless validation and decoders never panic.
  Models in IbcVerif/Model/{Panic,PanicParsers}.lean; what several parsers share (the last index of a
  split, the loops, `beUint64`, the nested memo walkers) is in IbcVerif/Lemmas/PanicParsers.lean.
  (The packet-data decoders' totality theorems are in IbcVerif.Props.C35: abi_decode_total,
  gmp_abi_decode_total, attestation_decode_total, proto_decode_total.)

  Level.  PROOF for the ibc-go-authored parsers listed below: in a model where every index/slice
  expression, explicit `panic` and unchecked type assertion of the Go function is a panicking
  primitive, the function never panics — for all inputs and for every behaviour of the library
  functions it calls (`Lib`), assuming only that `strings.Split` with a non-empty separator returns a
  non-empty slice — or it panics exactly outside a stated precondition.
  EXPLORATION only for the `ValidateBasic` bodies of the message types and for library decoders
  (gogoproto, encoding/json, go-ethereum abi, ModuleCdc): harness engine "fuzz".
-/
import IbcVerif.Model.PanicParsers
import IbcVerif.Lemmas.PanicParsers
namespace IbcVerif.C47
open IbcVerif IbcVerif.Parsers

/-- `ParseClientIdentifier` never panics -/
theorem parseClientIdentifier_total (L : Lib) (hs : L.SplitNonEmpty) (s : Str) :
    G.NoPanic (parseClientIdentifier L s) := by
  unfold parseClientIdentifier
  refine G.noPanic_ite (fun _ => G.noPanic_ok _) fun _ => G.noPanic_ite_err fun _ =>
    noPanic_lastIndex (hs s ['-'] (List.cons_ne_nil _ _)) fun hlt => ?_
  rw [G.sliceTo_ok _ _ (Nat.sub_le _ 1)]
  refine G.noPanic_ite_err fun _ => G.noPanic_index hlt ?_
  cases L.parseUint _ with
  | none => exact G.noPanic_err _
  | some n => exact G.noPanic_ok _

/-- `ParseHeight` never panics (the two index expressions are behind `len(splitStr) != 2`) -/
theorem parseHeight_total (L : Lib) (s : Str) : G.NoPanic (parseHeight L s) := by
  unfold parseHeight
  refine G.noPanic_ite_err fun h => G.noPanic_index (by omega) ?_
  cases L.parseUint _ with
  | none => exact G.noPanic_err _
  | some r =>
    refine G.noPanic_index (by omega) ?_
    cases L.parseUint _ with
    | none => exact G.noPanic_err _
    | some h => exact G.noPanic_ok _

/-- `host.ParseIdentifier`, `ParseChannelSequence`, `ParseConnectionSequence` never panic -/
theorem parseIdentifier_total (L : Lib) (id pfx : Str) :
    G.NoPanic (parseIdentifier L id pfx) ∧ G.NoPanic (parseChannelSequence L id) ∧ G.NoPanic (parseConnectionSequence L id) :=
  ⟨parseIdentifier_noPanic L id pfx, G.noPanic_ite_err fun _ => parseIdentifier_noPanic _ _ _,
    G.noPanic_ite_err fun _ => parseIdentifier_noPanic _ _ _⟩

/-- `SetRevisionNumber` never panics -/
theorem setRevisionNumber_total (L : Lib) (hs : L.SplitNonEmpty) (s : Str) (r : Nat) :
    G.NoPanic (setRevisionNumber L s r) := by
  unfold setRevisionNumber
  exact G.noPanic_ite_err fun _ => noPanic_lastIndex (hs s ['-'] (List.cons_ne_nil _ _)) fun hlt =>
    G.noPanic_index hlt (G.noPanic_ok _)

/-- `ParseChainID` never panics.  It is reached from `tendermint.ClientState.Validate` (hence
    `MsgCreateClient.ValidateBasic`) and from `tendermint.Header.GetHeight` (hence `Header` /
    `Misbehaviour.ValidateBasic`).  Before fix 011a55d this was false of the code: `IsRevisionFormat`
    (`^.*[^\n-]-{1}[1-9][0-9]*$`) puts no bound on the digits, `strconv.ParseUint` fails above
    2^64−1 and the function called `panic`; the witness chain id "a-99999999999999999999" is kept as
    a regression input of the harness (it must now give revision 0). -/
theorem parseChainID_total (L : Lib) (hs : L.SplitNonEmpty) (s : Str) :
    G.NoPanic (parseChainID L s) := by
  unfold parseChainID
  refine G.noPanic_ite (fun _ => G.noPanic_ok _) fun _ =>
    noPanic_lastIndex (hs s ['-'] (List.cons_ne_nil _ _)) fun hlt => G.noPanic_index hlt ?_
  cases L.parseUint _ with
  | none => exact G.noPanic_ok _
  | some n => exact G.noPanic_ok _

/-- the chain id on which `ParseChainID` panicked before fix 011a55d evaluates to revision 0 -/
theorem parseChainID_overflow_is_zero :
    parseChainID Lib.go ['a', '-', '9', '9', '9', '9', '9', '9', '9', '9', '9', '9', '9', '9', '9', '9', '9', '9', '9', '9', '9', '9'] = .ok 0 := by
  decide +kernel

/-- `ParseChannelPath`, `ParseConnectionPath`, `parseClientStatePath` never panic -/
theorem parsePath_total (L : Lib) (p : Str) :
    G.NoPanic (parseChannelPath L p) ∧ G.NoPanic (parseConnectionPath L p) ∧ G.NoPanic (parseClientStatePath L p) := by
  refine ⟨?_, ?_, ?_⟩
  · unfold parseChannelPath
    exact G.noPanic_ite_err fun h => G.noPanic_index (by omega) <| G.noPanic_index (by omega) <|
      G.noPanic_ite_err fun _ => G.noPanic_index (by omega) <| G.noPanic_index (by omega) <| G.noPanic_ok _
  · unfold parseConnectionPath
    refine G.noPanic_ite_err fun h => ?_
    rw [G.index_ok _ 1 (by omega)]
    exact G.noPanic_ok _
  · unfold parseClientStatePath
    exact G.noPanic_ite_err fun h => G.noPanic_index (by omega) <| G.noPanic_ite_err fun _ =>
      G.noPanic_index (by omega) <| G.noPanic_ite_err fun _ => G.noPanic_index (by omega) <|
      G.noPanic_ite_err fun _ => G.noPanic_index (by omega) <| G.noPanic_ok _

/-- `GetHeightFromIterationKey` needs a key of at least len("iterateConsensusStates") + 16 = 38
    bytes and is panic-free exactly then.  Every key `SetIterationKey` writes has 38 bytes; a
    shorter key under that prefix can only come from genesis `ClientsMetadata` (operator input). -/
theorem getHeightFromIterationKey_total_iff (k : Bytes) :
    G.NoPanic (getHeightFromIterationKey k) ↔ 38 ≤ k.length := by
  refine G.noPanic_iff_of_panics (fun h => ?_) fun h => getHeightFromIterationKey_panics k (Nat.lt_of_not_le h)
  unfold getHeightFromIterationKey
  have h2 : 8 ≤ (k.drop 22).length := by rw [List.length_drop]; omega
  rw [keyIterateConsensusStatePrefix_length]
  refine G.noPanic_sliceFrom (by omega) <| G.noPanic_slice (Nat.zero_le 8) h2 <| G.noPanic_sliceFrom h2 <|
    G.noPanic_bind _ _ ((beUint64_noPanic_iff _).mpr ?_) fun _ _ =>
    G.noPanic_bind _ _ ((beUint64_noPanic_iff _).mpr ?_) fun _ _ => G.noPanic_ok _
  · rw [List.drop_zero, List.length_take]; omega
  · rw [List.length_drop, List.length_drop]; omega

/-- channel-v2 `extractSequenceFromKey` is panic-free exactly when the suffix after the store
    prefix is empty or 8 bytes (explicit `panic` above 8, `binary.BigEndian.Uint64` below) — the
    shape of every key written by `SetPacketCommitment`/`Receipt`/`Acknowledgement` (see C16 for the
    prefix-confinement side) -/
theorem extractSequenceFromKey_total_iff (key pfx : Bytes) :
    G.NoPanic (extractSequenceFromKey key pfx) ↔
      (trimPrefix key pfx).length = 0 ∨ (trimPrefix key pfx).length = 8 := by
  unfold extractSequenceFromKey
  simp only
  by_cases h : (trimPrefix key pfx).length > 8
  · rw [if_pos h]
    exact ⟨fun hn => absurd rfl (hn _), fun h' => by omega⟩
  rw [if_neg h]
  by_cases h0 : (trimPrefix key pfx).length = 0
  · rw [if_pos h0]
    exact ⟨fun _ => .inl h0, fun _ => G.noPanic_ok _⟩
  rw [if_neg h0, beUint64_noPanic_iff]
  omega

/-- `ExtractDenomFromPath` never panics (`denomSplit[i+1]` is behind `i < length-1`) -/
theorem extractDenomFromPath_total (L : Lib) (hs : L.SplitNonEmpty) (s : Str) :
    G.NoPanic (extractDenomFromPath L s) := by
  have hpos := length_pos_of_ne_nil _ (hs s ['/'] (List.cons_ne_nil _ _))
  unfold extractDenomFromPath
  exact G.noPanic_index hpos <| G.noPanic_ite (fun _ => G.noPanic_ok _) fun _ =>
    G.noPanic_bind _ _ (extractLoop_noPanic _ _ _ _ _) fun _ _ => G.noPanic_ok _

/-- `Keeper.GetDenomFromIBCDenom` slices `ibcDenom[len("ibc/"):]`: panic-free exactly for strings of
    at least 4 bytes; its only in-tree caller `TokenFromCoin` checks `HasPrefix(denom, "ibc/")` first
    and is therefore total -/
theorem ibcDenomHexPart_total_iff (s : Str) :
    (G.NoPanic (ibcDenomHexPart s) ↔ 4 ≤ s.length) ∧ G.NoPanic (tokenFromCoinHexPart s) := by
  refine ⟨ibcDenomHexPart_noPanic_iff s, ?_⟩
  refine G.noPanic_ite (fun _ => G.noPanic_ok _) fun h =>
    G.noPanic_bind _ _ ((ibcDenomHexPart_noPanic_iff s).mpr ?_) fun _ _ => G.noPanic_ok _
  have hp : denomPrefixSlash <+: s := by simpa using h
  exact hp.length_le

/-- PFM `GetPacketMetadataFromPacketdata` / `getForwardMetadata` / `getForwardMetadataFromNext`
    never panic, for every JSON value, every nesting depth and every behaviour of `json.Unmarshal`
    (every type assertion of the memo extractors is of the checked form `v, ok := x.(T)`) -/
theorem forwardMetadata_total (pj : Str → Option (List (Str × JVal))) (fuel : Nat) (c : Option JVal) :
    G.NoPanic (getPacketMetadata pj fuel c) := by
  unfold getPacketMetadata
  cases asObj? c with
  | none => exact G.noPanic_err _
  | some fd => exact getForwardMetadata_noPanic _ _ _

/-- callbacks `getCallbackAddress` / `getUserDefinedGasLimit` / `getCalldata` never panic -/
theorem callbackData_total (L : Lib) (uh : Str → Bool) (c : Option JVal) :
    G.NoPanic (getCallbackFields L uh c) := by
  unfold getCallbackFields
  cases asObj? c with
  | none => exact G.noPanic_err _
  | some cb =>
  dsimp only
  cases asStr? (jlookup cb "address".toList) with
  | none => exact G.noPanic_err _
  | some addr =>
  refine G.noPanic_ite_err fun _ => G.noPanic_bind _ _ ?_ fun g _ => ?_
  · cases jlookup cb "gas_limit".toList with
    | none => exact G.noPanic_ok _
    | some v =>
      cases v with
      | str g =>
        refine G.noPanic_ite (fun _ => G.noPanic_ok _) fun _ => ?_
        cases L.parseUint g with
        | none => exact G.noPanic_err _
        | some n => exact G.noPanic_ok _
      | _ => exact G.noPanic_err _
  · cases jlookup cb "calldata".toList with
    | none => exact G.noPanic_ok _
    | some v =>
      cases v with
      | str c =>
        exact G.noPanic_ite (fun _ => G.noPanic_ok _) fun _ => G.noPanic_ite (fun _ => G.noPanic_ok _) fun _ => G.noPanic_err _
      | _ => exact G.noPanic_err _

/-- `strings.Split` as modelled for the driver returns a non-empty list for a non-empty separator:
    the executable `Lib.go` of the correspondence driver satisfies the hypothesis `SplitNonEmpty` -/
theorem libGo_split_nonempty : Lib.go.SplitNonEmpty := by
  intro s sep hsep
  show splitOnStr s sep ≠ []
  unfold splitOnStr
  rw [if_neg hsep]
  exact splitOnStrAux_ne_nil _ _ _ _

/-- the parsers accept well-formed input (so the theorems are not about an always-erroring model) and
    reject malformed input with an error, not a panic -/
example : parseClientIdentifier Lib.go "07-tendermint-42".toList = .ok ("07-tendermint".toList, 42) ∧
    (parseHeight Lib.go "1-".toList).isOk = false ∧ (parseHeight Lib.go "1-".toList).isPanic = false ∧
    parseChainID Lib.go "cosmoshub-4".toList = .ok 4 ∧
    (extractDenomFromPath Lib.go "transfer/channel-0/uatom".toList).isOk = true ∧
    (getHeightFromIterationKey (keyIterateConsensusStatePrefix ++ [0,0,0,0,0,0,0,1])).isPanic = true := by
  decide +kernel

end IbcVerif.C47
