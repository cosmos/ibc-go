/-
  C38 — Interchain-account channels: one active channel, owner-only sends.
  Model: IbcVerif/Model/Ica.lean Part B (two-chain world, relayers choose the order of handshake
  steps); helper lemmas: IbcVerif/Lemmas/IcaLife.lean.

  The controller side of the property holds in full (for all histories).  On the HOST side
  "the active channel is replaced only after it is CLOSED" is false of the code: `OnChanOpenConfirm`
  sets the active channel unconditionally (`host_replace_only_after_closed_full_false`, witness
  replayed on two real chains by the harness; open known finding).  What does hold on the host is
  stated as `host_try_requires_closed_partial` and `host_account_stable`.
-/
import IbcVerif.Model.Ica
import IbcVerif.Lemmas.IcaLife
namespace IbcVerif.C38
open IbcVerif.Apps IbcVerif.Ica

/-- both chains empty, both submodules enabled; connection pairing, address validity, address
    generation and pre-existing host accounts are arbitrary parameters -/
def start (peer : List (String × String)) (validAddr : String → Bool) (genAddr : String → String → String)
    (taken : List String) : World :=
  { ctrl := ⟨[], [], [], 0, true⟩, host := ⟨[], [], [], 0, true⟩, peer := peer, validAddr := validAddr,
    genAddr := genAddr, taken := taken }

/-- **One active channel (controller).**  After ANY history of registrations, third-party INITs,
    TRY/ACK/CONFIRM in any order (crossing handshakes included), ordered-channel timeouts and
    close-confirms: an OPEN interchain-account channel is the active channel of its (connection,
    owner port), hence two OPEN channels of one (connection, owner) are the same channel. -/
theorem ctrl_active_unique (peer validAddr genAddr taken) (ops : List Op) :
    let w := run (start peer validAddr genAddr taken) ops
    (∀ id c, w.ctrl.chan id = some c → c.state = .opened → KV.get w.ctrl.active (c.conn, c.port) = some id) ∧
    (∀ id1 id2 c1 c2, w.ctrl.chan id1 = some c1 → w.ctrl.chan id2 = some c2 →
      c1.state = .opened → c2.state = .opened → c1.conn = c2.conn → c1.port = c2.port → id1 = id2) := by
  have h : CInv (run (start peer validAddr genAddr taken) ops).ctrl := CInv.run (CInv.empty true) ops
  refine ⟨h.openIsActive, fun id1 id2 c1 c2 h1 h2 o1 o2 hc hp => Option.some.inj ?_⟩
  rw [← h.openIsActive id1 c1 h1 o1, hc, hp]
  exact h.openIsActive id2 c2 h2 o2

/-- **Replaced only after CLOSED (controller).**  In any reachable world, if a step changes the active
    channel of a key from `old` to a different `new`, then `old` was CLOSED before the step. -/
theorem ctrl_replace_only_after_closed (peer validAddr genAddr taken) (ops : List Op) (op : Op)
    (k : Key) (old new : Nat) :
    let w := run (start peer validAddr genAddr taken) ops
    KV.get w.ctrl.active k = some old → KV.get (step w op).1.ctrl.active k = some new → new ≠ old →
    ∃ c, w.ctrl.chan old = some c ∧ c.state = .closed := by
  intro w hold hnew hne
  have h : CInv w.ctrl := CInv.run (CInv.empty true) ops
  have hs := (step_moves w op).1
  generalize (step w op).1.ctrl = s' at hnew hs
  have same (he : KV.get s'.active k = KV.get w.ctrl.active k) : False :=
    hne (Option.some.inj (hnew.symm.trans (he.trans hold)))
  cases hs with
  | ack cid hid cc m a h1 h2 h3 =>
    -- ChanOpenAck makes `cid` the active channel of its key, which had no OPEN active channel
    by_cases hk : (cc.conn, cc.port) = k
    · obtain ⟨c, hc1, _, hc3, hc4⟩ := h.activeSettled k old hold
      refine ⟨c, hc1, hc4.resolve_left fun hc4 => ?_⟩
      have := Side.openActive_of hold hc1 hc4
      rw [hc3, ← hk, h3] at this
      cases this
    · exact (same (by rw [KV.get_set, if_neg hk])).elim
  | _ => exact (same rfl).elim

/-- **Reopening keeps ordering and metadata.**  When the controller accepts a new handshake for a key
    that already has an active channel, that channel is CLOSED, the ordering is the same and the
    metadata (version, both connection ids, encoding, tx type) equals the previous one. -/
theorem reopen_keeps_order_and_metadata (w : World) (order : Order) (conn port cpPort : String)
    (v : Option (Option Metadata)) (m : Metadata) (aid : Nat) (c : Chan)
    (hok : ctrlOnInit w order conn port cpPort v = .ok m)
    (ha : KV.get w.ctrl.active (conn, port) = some aid) (hc : w.ctrl.chan aid = some c) :
    c.state = .closed ∧ c.order = order ∧ ∃ pm, c.md = some pm ∧ pm.sameButAddress m = true := by
  exact reopenCheck_none (ctrlOnInit_ok hok).2.2 ha hc

/-- **Only the controller initiates, always towards the host port.**  The host module refuses
    ChanOpenInit, the controller module refuses ChanOpenTry, nobody may close by hand, and a
    controller-side INIT is accepted only on an `icacontroller-…` port with counterparty port `icahost`. -/
theorem controller_initiates (w : World) :
    step w .hostInit = (w, some .invalidChannelFlow) ∧ step w .ctrlTry = (w, some .invalidChannelFlow) ∧
    step w .closeInit = (w, some .invalidRequest) ∧
    (∀ order conn port cpPort v m, ctrlOnInit w order conn port cpPort v = .ok m →
      cpPort = hostPort ∧ hasPrefix ctrlPrefix port = true) := by
  exact ⟨rfl, rfl, rfl, fun _ _ _ _ _ _ hok => ⟨(ctrlOnInit_ok hok).2.1, (ctrlOnInit_ok hok).1⟩⟩

/-- **Owner-only sends.**  A `MsgSendTx` leads to a packet only if its signer is the owner it names
    (its sole signer by the proto annotation), the packet leaves on the port derived from that owner
    and on that owner's OPEN active channel. -/
theorem owner_only_send (w : World) (signer owner conn : String) (t d : Bool) (port : String) (cid : Nat)
    (h : sendTx w signer owner conn t d = .ok (port, cid)) :
    signer = owner ∧ port = ctrlPrefix ++ owner ∧ w.ctrl.openActive (conn, port) port = some cid := by
  simp only [sendTx, error_else_eq_ok] at h
  obtain ⟨h1, _, _, h⟩ := h
  split at h
  · cases h
  simp only [error_else_eq_ok] at h
  obtain ⟨_, _, h⟩ := h
  cases h
  exact ⟨by simpa using h1, rfl, by assumption⟩

/-- Distinct owners have distinct controller ports (the port is `ctrlPrefix ++ owner`), so with
    `owner_only_send` no owner can send on another owner's port. -/
theorem controller_port_injective (o1 o2 : String) (h : ctrlPrefix ++ o1 = ctrlPrefix ++ o2) : o1 = o2 := by
  have := congrArg String.toList h
  simp only [String.toList_append, List.append_cancel_left_eq] at this
  exact String.toList_inj.mp this

/-- **The host account of a (connection, owner) never changes.**  Once an address is stored for a key on
    the host, every later step keeps it — a reopening TRY reuses it instead of generating a new one. -/
theorem host_account_stable (w : World) (op : Op) (k : Key) (a : String)
    (h : KV.get w.host.addr k = some a) : KV.get (step w op).1.host.addr k = some a := by
  exact (step_moves w op).2 k a h

/-- **Host, what does hold:** a TRY is accepted only if the key's active channel (if any) is CLOSED at
    that moment. -/
theorem host_try_requires_closed_partial (w : World) (cid id : Nat) (w' : World)
    (hok : hostTry w cid = (w', .ok id)) :
    ∃ cc hconn, w.ctrl.chan cid = some cc ∧ KV.get w.peer cc.conn = some hconn ∧
      ∀ aid, KV.get w.host.active (hconn, cc.port) = some aid → ∃ c, w.host.chan aid = some c ∧ c.state = .closed := by
  rcases hostTry_shape hok with ⟨_, h⟩ | ⟨_, h⟩
  · cases h
  · exact h

/-- the host-side statement analogous to `ctrl_replace_only_after_closed` -/
def host_replace_only_after_closed_full : Prop :=
  ∀ (ops : List Op) (op : Op) (k : Key) (old new : Nat),
    let w := run (start [("cconn", "hconn")] (fun _ => true) (fun h p => h ++ "/" ++ p) []) ops
    KV.get w.host.active k = some old → KV.get (step w op).1.host.active k = some new → new ≠ old →
    ∃ c, w.host.chan old = some c ∧ c.state = .closed

/-- It is false of the code.  Witness (9 ops, replayed on real chains): the owner registers twice
    (ORDERED) — channels 0 and 1; both are TRYed; 0 is ACKed and CONFIRMed (host active = 0); controller
    channel 0 is closed by a timed-out packet; 1 is ACKed (allowed: 0 is closed on the controller);
    CONFIRM of host channel 1 replaces the host's active channel 0, which is still OPEN on the host. -/
theorem host_replace_only_after_closed_full_false : ¬ host_replace_only_after_closed_full := by
  intro h
  exact absurd (h [.register "o" "cconn" none .ordered, .register "o" "cconn" none .ordered, .hostTry 0, .hostTry 1,
    .ctrlAck 0 0, .hostConfirm 0, .timeoutClose 0, .ctrlAck 1 1] (.hostConfirm 1) ("hconn", "icacontroller-o") 0 1)
    (by decide +kernel)

end IbcVerif.C38
