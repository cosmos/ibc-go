/-
  C43 — Packet forwarding is all-or-nothing and conserves tokens.
  Model: IbcVerif/Model/Pfm.lean on top of the transfer cluster's denom model.

  On the pinned tree the refund of a forward sent back over its arrival channel (receive MINTED,
  forward BURNT: A→B→A) minted phantom vouchers into the channel's escrow account; /repo commit
  f970a92 repaired it, the model mirrors the repaired code, and the input that showed the defect is
  the regression theorem `bounce_witness_now_restored`.  The timeout path (in-flight record,
  `RetriesRemaining`, re-send, give-up refund) is covered by `retry_conserves`, `failed_retry_reverts`
  (the liveness caveat), `timeout_exhausted_refunds`, `override_receiver_empty` and
  `all_or_nothing_with_timeouts`.
-/
import IbcVerif.Model.Pfm
import IbcVerif.Lemmas.Pfm
namespace IbcVerif.C43
open IbcVerif IbcVerif.Xfer IbcVerif.Pfm

/-- **The forwarded denomination is the denomination ICS-20 credited** on the intermediate chain: for
    every packet denomination string, PFM's `getDenomForThisChain` (applied to the parsed denom, as
    `OnRecvPacket` does) equals the coin denomination ICS-20's `OnRecvPacket` credits. -/
theorem forward_denom_is_credited_denom (hashHex : Str → Str) (srcPort srcChan dstPort dstChan s : Str) :
    getDenomForThisChain hashHex dstPort dstChan srcPort srcChan (extract s) =
      ics20RecvCoinDenom hashHex srcPort srcChan dstPort dstChan s := by
  unfold getDenomForThisChain ics20RecvCoinDenom
  by_cases h : (extract s).hasPrefix srcPort srcChan = true
  · simp only [h, if_true]
    unfold Denom.ibcDenom Denom.path Denom.isNative
    by_cases ht : (extract s).trace.tail.isEmpty = true <;> simp [ht]
  · simp [h]

/-- a voucher cannot carry two different first hops: if the coin has both the arrival channel and the
    forward channel as first hop, they are the same channel — the (mint, burn) combination is the bounce -/
theorem mint_and_burn_is_bounce (d : Denom) (p1 c1 p2 c2 : Str)
    (h1 : d.hasPrefix p1 c1 = true) (h2 : d.hasPrefix p2 c2 = true) : p1 = p2 ∧ c1 = c2 := by
  unfold Denom.hasPrefix at h1 h2
  cases ht : d.trace with
  | nil => simp [ht] at h1
  | cons h t =>
    simp only [ht, Bool.and_eq_true, beq_iff_eq] at h1 h2
    exact ⟨h1.1.symm.trans h2.1, h1.2.symm.trans h2.2⟩

/-- **Refund restores the intermediate chain** (voucher supply, both escrow accounts, total escrow) in
    EVERY combination of what the receive did (mint / unescrow) and what the forward did (escrow /
    burn), for every amount and every prior state. -/
theorem refund_restores (h : FHop) (a : Int) (m : Mid) : bounceBack h a m = m :=
  refund_fwd_recv h a m

/-- The bounce on which the refund was wrong before /repo f970a92: receive mints 100, the forward back
    over the same channel burns 100, the forward fails.  The refund of the pinned tree left 100 phantom
    vouchers in the escrow account and in the total-escrow entry (v = 100, er = 100, te = 100); the
    repaired refund leaves the chain exactly as it was before the receive. -/
theorem bounce_witness_now_restored : bounceBack ⟨.mint, .burn⟩ 100 ⟨0, 0, 0, 0, 0⟩ = ⟨0, 0, 0, 0, 0⟩ :=
  refund_restores _ _ _

/-- **All-or-nothing over routes of any length** (`refund_restores` at every hop of the route): if the
    route fails somewhere downstream, every intermediate chain that had forwarded ends exactly where it
    started and the outcome is a clean refund; if nothing fails the outcome is `delivered`. -/
theorem all_or_nothing (route : List (FHop × Mid)) (a : Int) :
    route.map (fun x => bounceBack x.1 a x.2) = route.map (·.2) ∧
    routeOutcome (route.map (·.1)) true = .refundedClean ∧
    routeOutcome (route.map (·.1)) false = .delivered := by
  refine ⟨List.map_congr_left fun x _ => refund_restores x.1 a x.2, ?_, rfl⟩
  have : (route.map (·.1)).all FHop.restores = true :=
    List.all_eq_true.mpr fun h _ => beq_iff_eq.mpr (refund_restores h 1 _)
  unfold routeOutcome
  rw [this]
  rfl

/-- non-vacuity: A→B→C with a token native to A (B mints then escrows) and with a voucher returning to
    its origin C (B unescrows then burns): both restored after a failed forward. -/
example : bounceBack ⟨.mint, .escrow⟩ 70 ⟨5, 10, 20, 30, 0⟩ = ⟨5, 10, 20, 30, 0⟩ ∧
    bounceBack ⟨.unescrow, .burn⟩ 70 ⟨500, 100, 20, 300, 7⟩ = ⟨500, 100, 20, 300, 7⟩ ∧
    bounceBack ⟨.unescrow, .escrow⟩ 70 ⟨500, 100, 20, 300, 0⟩ = ⟨500, 100, 20, 300, 0⟩ := by decide +kernel

/-- **A retry conserves.**  A timeout of the in-flight forward while retries remain (and the re-send
    succeeds) changes NO balance, supply or total-escrow entry on the intermediate chain: ICS-20's
    timeout refund to the override receiver and the new escrow/burn cancel exactly.  All that changes is
    the in-flight record: moved to the new sequence with one retry fewer. -/
theorem retry_conserves (h : FHop) (a : Int) (n : Node) (r : InFlight)
    (hr : n.flight = some r) (hpos : 0 < r.retriesRemaining) :
    onTimeout h a true r.seq n =
      ({ m := n.m, flight := some ⟨n.nextSeq, r.retriesRemaining - 1⟩, nextSeq := n.nextSeq + 1 }, .retried) :=
  (onTimeout_eq true hr).trans (if_neg (Int.not_le.mpr hpos))

/-- **Liveness caveat, stated explicitly.**  If the re-send of a retry fails, `OnTimeoutPacket` returns the
    error, the timeout transaction reverts: nothing changes and the packet is still in flight (it can be
    timed out again later).  No funds move; the route merely does not terminate at this point. -/
theorem failed_retry_reverts (h : FHop) (a : Int) (n : Node) (r : InFlight)
    (hr : n.flight = some r) (hpos : 0 < r.retriesRemaining) :
    onTimeout h a false r.seq n = (n, .reverted) :=
  (onTimeout_eq false hr).trans (if_neg (Int.not_le.mpr hpos))

/-- **Exhausted retries refund like an error acknowledgement.**  (1) The give-up step is, on the chain
    state, literally the error-ack step (same refund function, record removed).  (2) Starting from a
    fresh receive-and-forward with `retries` retries, `retries + 1` timeouts (every re-send succeeding)
    end with the record gone and the chain exactly as before the receive. -/
theorem timeout_exhausted_refunds (h : FHop) (a : Int) :
    (∀ (n : Node) (r : InFlight) (ok : Bool), n.flight = some r → r.retriesRemaining ≤ 0 →
      onTimeout h a ok r.seq n = (onErrorAck h a r.seq n, .gaveUp)) ∧
    (∀ (n0 : Node) (retries : Nat), n0.flight = none →
      let n := afterTimeouts h a (receiveAndForward h a retries true n0) (List.replicate (retries + 1) true)
      n.flight = none ∧ n.m = n0.m) := by
  constructor
  · intro n r ok hr hz
    rw [onTimeout_eq ok hr, if_pos hz]
  · intro n0 retries _
    have := exhaust h a retries (receiveAndForward h a retries true n0) ⟨n0.nextSeq, retries⟩
      (by simp [receiveAndForward, forwardOk]) rfl
    refine ⟨this.1, ?_⟩
    rw [this.2]
    simp only [receiveAndForward, forwardOk, if_true]
    exact refund_fwd_recv h a n0.m

/-- **The intermediate receive account never keeps funds.**  The override receiver's balance of the
    forwarded coin is back at its prior value at the end of the receive step (forwarded, or the whole
    receive discarded), after every timeout step (retry, failed retry, give-up) and after the
    error-acknowledgement refund. -/
theorem override_receiver_empty (h : FHop) (a : Int) (n : Node) :
    (∀ retries ok, (receiveAndForward h a retries ok n).m.ov = n.m.ov) ∧
    (∀ ok seq, (onTimeout h a ok seq n).1.m.ov = n.m.ov) ∧
    (∀ seq, (onErrorAck h a seq n).m.ov = n.m.ov) := by
  have herr (seq) : (onErrorAck h a seq n).m.ov = n.m.ov := by
    unfold onErrorAck
    split
    · split
      · exact refund_ov
      · rfl
    · rfl
  refine ⟨?_, ?_, herr⟩
  · intro retries ok
    cases ok
    · simp [receiveAndForward]
    · simp only [receiveAndForward, forwardOk, if_true]
      exact fwd_recv_ov h a n.m
  · intro ok seq
    cases hr : n.flight with
    | none => simp [onTimeout, hr]
    | some r =>
      by_cases hs : r.seq = seq
      · subst hs
        rw [onTimeout_eq ok hr]
        split
        · exact herr _
        · cases ok <;> rfl
      · simp [onTimeout, hr, hs]

/-- **All-or-nothing with any number of timeouts per hop.**  Every intermediate chain of a route receives
    and forwards (with its own retry budget), then sees ANY sequence of timeouts of its in-flight packet —
    re-sends succeeding or failing in any pattern, giving up when the retries are exhausted — and finally,
    the route failing downstream, the error acknowledgement if it is still in flight.  At the end every
    intermediate chain is exactly where it started and holds no in-flight record.  While a hop has not
    given up its state is "funds forwarded, record present" — never anything in between.  (Hop by hop:
    `Tracks` holds after the receive, and `afterTimeouts_tracks` keeps it over the list of timeout events.) -/
theorem all_or_nothing_with_timeouts (a : Int) (route : List (FHop × Node × Nat × List Bool))
    (hfresh : ∀ x ∈ route, x.2.1.flight = none) :
    (route.map fun x => (settleFailed x.1 a (afterTimeouts x.1 a (receiveAndForward x.1 a x.2.2.1 true x.2.1) x.2.2.2)).m)
        = route.map (·.2.1.m) ∧
    (∀ x ∈ route, (settleFailed x.1 a (afterTimeouts x.1 a (receiveAndForward x.1 a x.2.2.1 true x.2.1) x.2.2.2)).flight = none) ∧
    (∀ x ∈ route, Tracks x.1 a x.2.1.m (afterTimeouts x.1 a (receiveAndForward x.1 a x.2.2.1 true x.2.1) x.2.2.2)) := by
  have key : ∀ x ∈ route, Tracks x.1 a x.2.1.m (afterTimeouts x.1 a (receiveAndForward x.1 a x.2.2.1 true x.2.1) x.2.2.2) := by
    intro x _
    refine afterTimeouts_tracks _ (.inl ?_)
    simp [receiveAndForward, forwardOk]
  exact ⟨List.map_congr_left fun x hx => (settleFailed_of_tracks (key x hx)).1,
    fun x hx => (settleFailed_of_tracks (key x hx)).2, key⟩

/-- non-vacuity: mint/escrow hop, 2 retries: timeout (re-sent), timeout with a failing re-send
    (reverted, still in flight), timeout (re-sent), timeout (no retries left: give up). -/
example :
    let n0 : Node := ⟨⟨5, 10, 20, 30, 0⟩, none, 7⟩
    let n1 := receiveAndForward ⟨.mint, .escrow⟩ 70 2 true n0
    n1 = ⟨⟨75, 10, 90, 100, 0⟩, some ⟨7, 2⟩, 8⟩ ∧
    (onTimeout ⟨.mint, .escrow⟩ 70 true 7 n1) = (⟨⟨75, 10, 90, 100, 0⟩, some ⟨8, 1⟩, 9⟩, .retried) ∧
    afterTimeouts ⟨.mint, .escrow⟩ 70 n1 [true, false, true] = ⟨⟨75, 10, 90, 100, 0⟩, some ⟨9, 0⟩, 10⟩ ∧
    afterTimeouts ⟨.mint, .escrow⟩ 70 n1 [true, false, true, true] = ⟨⟨5, 10, 20, 30, 0⟩, none, 10⟩ := by
  decide +kernel

end IbcVerif.C43
