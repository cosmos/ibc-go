/-
  C49 — Tokens move out of an account only with that account's authorization.
  Property theorems only; helper lemmas live in IbcVerif/Lemmas/Ics20.lean, Ics20Step.lean.

  Model: `Ics20.step` (Model/Ics20.lean) = transfer/keeper/msg_server.go `Transfer`,
  v2/ibc_module.go `OnSendPacket` (reached by a raw `MsgSendPacket`, op `sendV2`), and the receive /
  acknowledgement / timeout callbacks of both IBC modules.  A `transfer` op carries the transaction
  signer; that the SDK only delivers a `MsgTransfer` whose `sender` field signed the transaction
  (`cosmos.msg.v1.signer = "sender"`) is modelled by `step` rejecting `viaTx` messages with
  `signer ≠ sender` (tied by the harness, which signs with mismatching keys).  Relayers do not occur in
  the callbacks of the model at all, because the Go callbacks never read their `relayer` argument; the
  harness relays with random accounts so that a dependence would surface as a mismatch.
-/
import IbcVerif.Model.Ics20
import IbcVerif.Lemmas.Ics20
import IbcVerif.Lemmas.Ics20Step
namespace IbcVerif.C49
open IbcVerif IbcVerif.Xfer IbcVerif.Ics20

/-- **Debits need the account's own signature.**  In every step of every world, if the balance of an
    account that is not an escrow account goes down (any denomination, any chain), then the step is

    * a `MsgTransfer` on that chain whose `sender` decodes to that account — and, when it arrived in a
      transaction, whose signer is that `sender`; or
    * a v2 `MsgSendPacket` on that chain signed by that account, whose ICS-20 payload names that same
      account as sender; or
    * the account's own bank send.

    Receives, acknowledgements, timeouts (whoever relays them) and parameter changes never debit a
    user or the module account. -/
theorem debit_requires_authority (cfg : Config) (w : World) (op : Op) (c : Nat) (a : Addr) (d : Str)
    (hlt : (((step cfg w op).1).chains c).bank.bal a d < (w.chains c).bank.bal a d)
    (hesc : ∀ p ch, a ≠ cfg.escrowAddr p ch) :
    (∃ signer viaTx m ce seq, op = .transfer c signer viaTx m ce seq ∧ cfg.decode m.sender = some a ∧
        (viaTx = true → signer = m.sender)) ∨
    (∃ signer client data ce seq, op = .sendV2 c signer client data ce seq ∧ cfg.decode signer = some a ∧
        cfg.decode data.sender = some a) ∨
    (∃ to dn amt, op = .bankSend c a to dn amt) := by
  have h : Payer cfg c a op := ((step_bankStep cfg w op c).payer_payee a d).1 hlt
  clear hlt
  cases op with
  | transfer c' signer viaTx m ce seq => obtain ⟨rfl, h1, h2⟩ := h; exact Or.inl ⟨_, _, _, _, _, rfl, h1, h2⟩
  | sendV2 c' signer client data ce seq => obtain ⟨rfl, h1, h2⟩ := h; exact Or.inr (Or.inl ⟨_, _, _, _, _, rfl, h1, h2⟩)
  | bankSend c' f t dn n => obtain ⟨rfl, rfl⟩ := h; exact Or.inr (Or.inr ⟨_, _, _, rfl⟩)
  | recv _ | ack _ _ | timeout _ _ | setParams _ _ _ => obtain ⟨p, ch, e⟩ := h; exact absurd e (hesc p ch)

/-- where a step may credit tokens: the escrow account of the source channel end (sends), the
    packet's receiver (receive), the packet's original sender (acknowledgement / timeout), the
    recipient of a bank send -/
def CreditTarget (cfg : Config) (c : Nat) (a : Addr) : Op → Prop
  | .transfer c' _ _ m _ _ => c = c' ∧ a = cfg.escrowAddr transferPort m.chan
  | .sendV2 c' _ client _ _ _ => c = c' ∧ a = cfg.escrowAddr transferPort client
  | .recv p => c = p.dstChain ∧ cfg.decode p.data.receiver = some a
  | .ack p _ => c = p.srcChain ∧ cfg.decode p.data.sender = some a
  | .timeout p _ => c = p.srcChain ∧ cfg.decode p.data.sender = some a
  | .setParams _ _ _ => False
  | .bankSend c' _ to _ _ => c = c' ∧ a = to

/-- **Credits go only where the packet says.**  If a balance goes up in a step, then the step is

    * a transfer (v1, alias or raw v2 send) and the account is the escrow account of the source
      channel end; or
    * a receive on the packet's destination chain and the account is the packet's `receiver`; or
    * an acknowledgement / timeout on the packet's source chain and the account is the packet's
      original `sender`; or
    * a bank send and the account is its recipient. -/
theorem credit_targets (cfg : Config) (w : World) (op : Op) (c : Nat) (a : Addr) (d : Str)
    (hgt : (w.chains c).bank.bal a d < (((step cfg w op).1).chains c).bank.bal a d) :
    CreditTarget cfg c a op := by
  -- `CreditTarget` lists the payees operation by operation
  have h : Payee cfg c a op := ((step_bankStep cfg w op c).payer_payee a d).2 hgt
  cases op <;> exact h

/-- **v2: the payload's sender must be the signer.**  A raw `MsgSendPacket` with an ICS-20 payload only
    succeeds when the payload's `sender` decodes to the very account that signed the message. -/
theorem v2_send_sender_is_signer (cfg : Config) (w w' : World) (c : Nat) (signer client : Str) (data : PacketData)
    (ce : Option String) (seq : Nat) (p : Packet)
    (h : step cfg w (.sendV2 c signer client data ce seq) = (w', .sent p)) :
    ∃ s, cfg.decode signer = some s ∧ cfg.decode data.sender = some s := by
  obtain ⟨ch', ht, _⟩ := step_sendV2_sent h
  obtain ⟨s, hs, hs', _⟩ := sendPacketV2_ok ht
  exact ⟨s, hs, hs'⟩

/-- a `MsgTransfer` delivered in a transaction signed by someone other than its `sender` changes nothing -/
theorem transfer_with_foreign_signer_rejected (cfg : Config) (w : World) (c : Nat) (signer : Str) (m : MsgTransfer)
    (ce : Option String) (seq : Nat) (h : signer ≠ m.sender) :
    (step cfg w (.transfer c signer true m ce seq)).1 = w := by
  have hs := stepped cfg w (.transfer c signer true m ce seq)
  generalize (step cfg w (.transfer c signer true m ce seq)).1 = w',
    (step cfg w (.transfer c signer true m ce seq)).2 = r at hs ⊢
  cases hs with
  | fail => rfl
  | transfer hsig => exact absurd (hsig rfl) h

/-- non-vacuity: a concrete world in which user `u` sends 5 of its 10 `uatom` over `channel-0`: the
    step succeeds and debits exactly `u`. -/
example :
    let cfg : Config :=
      { hashHex := (fun s => s)
        decode := (fun s => some s)
        blocked := (fun _ _ => false)
        moduleAddr := "module".toList
        escrowAddr := (fun p c => "esc:".toList ++ p ++ c)
        peer := (fun _ _ => some (1, "channel-1".toList))
        hasChannel := (fun _ _ _ => true) }
    let ch : Chain := ⟨⟨fun a d => if a = "u".toList ∧ d = "uatom".toList then 10 else 0, fun _ => 10⟩, fun _ => 0, [], true, true⟩
    let w : World := ⟨fun _ => ch, [], [], [], []⟩
    let m : MsgTransfer := ⟨"transfer".toList, "channel-0".toList, "uatom".toList, 5, "u".toList, "v".toList, [], false, []⟩
    (((step cfg w (.transfer 0 "u".toList true m none 1)).1).chains 0).bank.bal "u".toList "uatom".toList = 5 := by
  decide +kernel

end IbcVerif.C49
