/-
  C04 — Timeouts are sound: never both received and timed out, never early.
  Two-chain statements under the honest-client abstraction of Model/World.lean (HonestClient: the
  consensus state A holds for height H is B's real block H — its time and the state after H−1); the
  single-chain guards these theorems compose are tied to the code by the chain / world engines.
-/
import IbcVerif.Model.World
import IbcVerif.Lemmas.Height
namespace IbcVerif.C04
open IbcVerif IbcVerif.World

theorem elapsedNat_iff (t : TimeoutV1) (rev h ts : Nat) :
    elapsedNat t rev h ts = true ↔
      (¬ (t.rev = 0 ∧ t.height = 0) ∧ (rev > t.rev ∨ (rev = t.rev ∧ h ≥ t.height))) ∨ (t.ts ≠ 0 ∧ ts ≥ t.ts) := by
  simp only [elapsedNat, Bool.or_eq_true, Bool.and_eq_true, Bool.not_eq_true', decide_eq_true_eq, beq_iff_eq,
    bne_iff_ne, ne_eq, Bool.and_eq_false_iff, beq_eq_false_iff_ne, Decidable.not_and_iff_not_or_not]

theorem elapsedNat_mono (t : TimeoutV1) (rev h h' ts ts' : Nat) (hh : h ≤ h') (hts : ts ≤ ts')
    (he : elapsedNat t rev h ts = true) : elapsedNat t rev h' ts' = true := by
  rw [elapsedNat_iff] at he ⊢
  exact he.imp (And.imp_right fun hg => hg.imp_right fun ⟨e, hg⟩ => ⟨e, Nat.le_trans hg hh⟩)
    (And.imp_right fun hg => Nat.le_trans hg hts)

/-- v1: a packet executed on B (in any block `hr`, past or future) is never timed out on A, for any
    proof height — i.e. no packet is both received and timed out -/
theorem timeout_excludes_receive_v1 (time : Clock) (hm : Monotone time) (t : TimeoutV1) (rev H hr : Nat)
    (hrecv : recvGuardV1 time t rev hr = true)                    -- the receive passed its guard in block hr
    (hto : timeoutAcceptV1 time t rev H (some hr) = true) : False := by
  simp only [timeoutAcceptV1, visibleAt, Bool.and_eq_true, Bool.not_eq_true', decide_eq_false_iff_not] at hto
  simp only [recvGuardV1, Bool.not_eq_true'] at hrecv
  obtain ⟨hel, hvis⟩ := hto
  have hle : H ≤ hr := by omega
  have := elapsedNat_mono t rev H hr (time H) (time hr) hle (hm H hr hle) hel
  rw [this] at hrecv; cases hrecv

/-- … and once A accepted a timeout for proof height H, every LATER receive attempt on B is refused:
    any block at or after H fails the guard, any earlier block would have been visible in the proof -/
theorem after_timeout_never_received_v1 (time : Clock) (hm : Monotone time) (t : TimeoutV1) (rev H : Nat) (hr0 : Option Nat)
    (hto : timeoutAcceptV1 time t rev H hr0 = true) (h : Nat) (hge : H ≤ h) : recvGuardV1 time t rev h = false := by
  simp only [timeoutAcceptV1, Bool.and_eq_true] at hto
  have := elapsedNat_mono t rev H h (time H) (time h) hge (hm H h hge) hto.1
  simp [recvGuardV1, this]

/-- never early: an accepted timeout means chain B really produced a block (H) at which its own height
    or its own time had reached the packet's timeout -/
theorem timeout_not_early_v1 (time : Clock) (t : TimeoutV1) (rev H : Nat) (hr : Option Nat)
    (hto : timeoutAcceptV1 time t rev H hr = true) :
    (¬ (t.rev = 0 ∧ t.height = 0) ∧ (rev > t.rev ∨ (rev = t.rev ∧ H ≥ t.height))) ∨ (t.ts ≠ 0 ∧ time H ≥ t.ts) := by
  simp only [timeoutAcceptV1, Bool.and_eq_true] at hto
  exact (elapsedNat_iff t rev H (time H)).mp hto.1

theorem recvGuardV2_iff (time : Clock) (T h : Nat) : recvGuardV2 time T h = true ↔ time h / 1000000000 < T := by
  unfold recvGuardV2 secs
  exact decide_eq_true_iff

theorem timeoutAcceptV2_iff (time : Clock) (T H : Nat) (hr : Option Nat) :
    timeoutAcceptV2 time T H hr = true ↔ T ≤ time H / 1000000000 ∧ visibleAt hr H = false := by
  simp [timeoutAcceptV2, secs]

/-- the seconds conversion is consistent: the recv check (`⌊now/1e9⌋ < T`) and the timeout check
    (`⌊proofTime/1e9⌋ ≥ T`) can never both pass once `proofTime ≤ now` -/
theorem v2_seconds_consistent (proofTs now T : Nat) (h : proofTs ≤ now) (hto : secs proofTs ≥ T) : ¬ (secs now < T) := by
  have : proofTs / 1000000000 ≤ now / 1000000000 := Nat.div_le_div_right h
  simp only [secs] at *
  omega

/-- v2 (timeouts in seconds against nanosecond consensus time): same exclusion -/
theorem timeout_excludes_receive_v2 (time : Clock) (hm : Monotone time) (T H hr : Nat)
    (hrecv : recvGuardV2 time T hr = true) (hto : timeoutAcceptV2 time T H (some hr) = true) : False := by
  rw [timeoutAcceptV2_iff] at hto
  have hle : H ≤ hr := by
    have := hto.2
    simp only [visibleAt, decide_eq_false_iff_not] at this
    omega
  exact v2_seconds_consistent _ _ T (hm H hr hle) hto.1 ((recvGuardV2_iff ..).mp hrecv)

theorem after_timeout_never_received_v2 (time : Clock) (hm : Monotone time) (T H : Nat) (hr0 : Option Nat)
    (hto : timeoutAcceptV2 time T H hr0 = true) (h : Nat) (hge : H ≤ h) : recvGuardV2 time T h = false := by
  rw [timeoutAcceptV2_iff] at hto
  exact Bool.eq_false_iff.mpr fun hg =>
    v2_seconds_consistent _ _ T (hm H h hge) hto.1 ((recvGuardV2_iff ..).mp hg)

/-- localhost: an accepted timeout means the chain ITSELF has reached the timeout (its own height `n`
    is at or above the timeout height, or its own time has reached the timestamp) and the packet was
    not received -/
theorem timeout_not_early_localhost (time : Clock) (t : TimeoutV1) (rev n P : Nat) (hr : Option Nat)
    (hto : timeoutAcceptLocalhost time t rev n P hr = true) :
    elapsedNat t rev n (time n) = true ∧ (∀ r, hr = some r → n < r) := by
  simp only [timeoutAcceptLocalhost, Bool.and_eq_true, decide_eq_true_eq] at hto
  obtain ⟨⟨hP, hel⟩, hrc⟩ := hto
  refine ⟨elapsedNat_mono t rev P n (time n) (time n) hP (Nat.le_refl _) hel, ?_⟩
  intro r e
  subst e
  simp only [Bool.not_eq_true', decide_eq_false_iff_not] at hrc
  omega

/-- the same statement for the ibc-go code before the fix: without the bound on the proof height
    the localhost timeout can be accepted before the chain reached the timeout height … -/
def timeout_not_early_localhost_unfixed_full : Prop :=
  ∀ (time : Clock) (t : TimeoutV1) (rev n P : Nat) (hr : Option Nat),
    timeoutAcceptLocalhostUnfixed time t rev n P hr = true → elapsedNat t rev n (time n) = true

/-- … which is FALSE: height-only timeout at 100, chain at height 10, relayer passes proof height 100 -/
theorem timeout_not_early_localhost_unfixed_full_false : ¬ timeout_not_early_localhost_unfixed_full := by
  intro h
  have := h (fun _ => 5) ⟨1, 100, 0⟩ 1 10 100 none (by decide)
  revert this; decide

/-- the Nat formulation of `Elapsed` agrees with the UInt64 model of Model/Height.lean (which is the
    one tied to the Go code by the purefn correspondence, functions timeout.*) -/
theorem elapsedNat_eq (th : Height) (tts : UInt64) (h : Height) (ts : UInt64) :
    (Timeout.mk th tts).elapsed h ts = elapsedNat ⟨th.rev.toNat, th.h.toNat, tts.toNat⟩ h.rev.toNat h.h.toNat ts.toNat := by
  rw [Bool.eq_iff_iff, elapsedNat_iff]
  simp only [Timeout.elapsed, Timeout.heightElapsed, Timeout.timestampElapsed, Bool.or_eq_true, Bool.and_eq_true,
    Bool.not_eq_true', Height.gte_iff, bne_iff_ne, ne_eq, decide_eq_true_eq, UInt64.le_iff_toNat_le,
    ← UInt64.toNat_inj, UInt64.toNat_zero, ge_iff_le]
  have hz : Height.isZero th = false ↔ ¬ (th.rev.toNat = 0 ∧ th.h.toNat = 0) := by
    rw [← Height.isZero_iff]; cases Height.isZero th <;> simp
  rw [hz]

/-- non-vacuity: a concrete clock and packet where the timeout is accepted at proof height 7 and every
    receive from block 7 on is refused, while a receive in block 6 would have been possible -/
example :
    let time : Clock := fun h => 1000 * h
    let t : TimeoutV1 := ⟨1, 7, 0⟩
    timeoutAcceptV1 time t 1 7 none = true ∧ recvGuardV1 time t 1 6 = true ∧ recvGuardV1 time t 1 7 = false := by decide

end IbcVerif.C04
