/-
  C13 — Connection handshake safety (single-chain part).  The version-negotiation algebra is in
  Props/C13Versions.lean; the two-chain agreement statement needs the world model.
-/
import IbcVerif.Lemmas.ChainInv3
namespace IbcVerif.C13
open IbcVerif IbcVerif.Chain

/-- one step from any reachable state changes an existing connection end only along INIT→OPEN
    (ACK: version fixed to a single supported version) or TRYOPEN→OPEN (CONFIRM: nothing else changes);
    client, counterparty client, prefix and delay period never change. -/
theorem conn_state_transitions (ops : List Op) (op : Op) (c : Id) (e : ConnEnd)
    (hc : (run init ops).conn.get c = some e) :
    ∃ e', (step (run init ops) op).1.conn.get c = some e' ∧ ConnStep e e' :=
  conn_after (inv3_run_init ops) (tr_step _ op) hc

/-- OPEN is absorbing: an OPEN connection end is never written again. -/
theorem open_is_absorbing (e e' : ConnEnd) (ho : e.state = .opened) (h : ConnStep e e') : e' = e :=
  h.of_opened ho

theorem open_conn_never_changes (ops : List Op) (op : Op) (c : Id) (e : ConnEnd)
    (hc : (run init ops).conn.get c = some e) (ho : e.state = .opened) :
    (step (run init ops) op).1.conn.get c = some e :=
  conn_open_after (inv3_run_init ops) (tr_step _ op) hc ho

/-- a new connection end starts in INIT or TRYOPEN under the generated identifier, never on the
    localhost client, and a TRYOPEN end carries exactly one (picked) version. -/
theorem new_connection_shape (s : ChainState) (op : Op) (c : Id) (e' : ConnEnd)
    (h0 : s.conn.get c = none) (h1 : (step s op).1.conn.get c = some e') :
    c = fmtConn s.nextConnSeq ∧ (e'.state = .init ∨ e'.state = .tryopen) ∧ e'.client ≠ localhostClient ∧
    (e'.state = .tryopen → ∃ v, e'.versions = [v]) := by
  obtain ⟨a, _, r⟩ := (tr_step s op).connNew c e' h0 h1
  exact ⟨a, r⟩

/-- handshakes over the localhost client are refused by the two messages that carry a client id. -/
theorem localhost_handshake_refused_init (s : ChainState) (env : Env) (cp : Id) (pfx : Hex) (v : Option Version) (d : Nat) :
    step s ⟨env, .connOpenInit localhostClient cp pfx v d⟩ = (s, .err eVB) := by
  by_cases hv : env.vb = true <;> simp [step, Body.isMsg, msgConnOpenInit, hv]

theorem localhost_handshake_refused_try (s : ChainState) (env : Env) (cp cc : Id) (pfx : Hex) (vs : List Version) (d : Nat) :
    step s ⟨env, .connOpenTry localhostClient cp cc pfx vs d⟩ = (s, .err eVB) := by
  by_cases hv : env.vb = true <;> simp [step, Body.isMsg, msgConnOpenTry, hv]

/-- the localhost connection exists OPEN from genesis on and (being OPEN) is never touched, so
    neither ConnOpenAck nor ConnOpenConfirm can ever apply to it. -/
theorem localhost_connection_stays (ops : List Op) :
    ∃ e, (run init ops).conn.get "connection-localhost" = some e ∧ e.state = .opened ∧ e.client = localhostClient :=
  (run_preserves (P := fun s => Inv3 s ∧
      ∃ e, s.conn.get "connection-localhost" = some e ∧ e.state = .opened ∧ e.client = localhostClient)
    (fun _ _ ht ⟨h3, e, he, ho, hcl⟩ => ⟨h3.step ht, e, conn_open_after h3 ht he ho, ho, hcl⟩) _ ops
    ⟨Inv3.init, _, rfl, rfl, rfl⟩).2

/-- ConnOpenAck / ConnOpenConfirm / ConnOpenTry succeed only if the proof of the counterparty's
    connection end verified. -/
theorem conn_open_requires_proof (s s' : ChainState) (env : Env) (op : Body) (r : String)
    (hop : (∃ c cc v, op = .connOpenAck c cc v) ∨ (∃ c, op = .connOpenConfirm c) ∨
           (∃ a b c d e f, op = .connOpenTry a b c d e f))
    (h : step s ⟨env, op⟩ = (s', .ok r)) : env.lc.v1 = true := by
  rcases hop with ⟨c, cc, v, rfl⟩ | ⟨c, rfl⟩ | ⟨a, b, c, d, e, f, rfl⟩
  · obtain ⟨_, _, _, _, hv, _⟩ := (connOpenAck_cases h).ok rfl
    exact verify_ok_v hv
  · obtain ⟨_, _, _, hv, _⟩ := (connOpenConfirm_cases h).ok rfl
    exact verify_ok_v hv
  · exact ((connOpenTry_cases h).ok rfl).2.1

/-- a channel opens (INIT or TRY) only on a connection with exactly one negotiated version whose
    features contain the requested ordering. -/
theorem chan_open_needs_single_version (s s' : ChainState) (env : Env) (port : Id) (o : Order) (hops : List Id) (cpPort : Id)
    (ver : String) (app : AppV1) (r : String)
    (h : step s ⟨env, .chanOpenInit port o hops cpPort ver app⟩ = (s', .ok r)) :
    ∃ hop rest conn v, hops = hop :: rest ∧ s.conn.get hop = some conn ∧ conn.versions = [v] ∧ v.features.contains o.str = true := by
  obtain ⟨hop, rest, conn, hh, hc, ho, _⟩ := (chanOpenInit_cases h).ok rfl
  obtain ⟨v, hv, hf⟩ := connSupportsOrder_ok ho
  exact ⟨hop, rest, conn, v, hh, hc, hv, hf⟩

theorem chan_try_needs_single_version (s s' : ChainState) (env : Env) (port : Id) (o : Order) (hops : List Id) (cpPort cpChan : Id)
    (ver : String) (app : AppV1) (r : String)
    (h : step s ⟨env, .chanOpenTry port o hops cpPort cpChan ver app⟩ = (s', .ok r)) :
    ∃ hop conn v, hops = [hop] ∧ s.conn.get hop = some conn ∧ conn.versions = [v] ∧ v.features.contains o.str = true := by
  obtain ⟨hop, conn, hh, hc, _, ho, _⟩ := (chanOpenTry_cases h).ok rfl
  obtain ⟨v, hv, hf⟩ := connSupportsOrder_ok ho
  exact ⟨hop, conn, v, hh, hc, hv, hf⟩

example : Inv3 Chain.init := Inv3.init

end IbcVerif.C13
