/-
  C13 — version negotiation algebra (the handshake half lives with the chain model).
  For ALL supported / counterparty version lists: duplicates, empty feature sets, several entries
  per identifier.
-/
import IbcVerif.Model.Version
namespace IbcVerif.C13V
open IbcVerif.Version

theorem findSupported_some {id : String} {vs : List Version} {c : Version} (h : findSupported id vs = some c) :
    c ∈ vs ∧ c.id = id := by
  induction vs with
  | nil => simp [findSupported] at h
  | cons v vs ih =>
    simp only [findSupported] at h
    split at h
    · rename_i e; cases h; exact ⟨List.mem_cons_self, e.symm⟩
    · exact ⟨List.mem_cons_of_mem _ (ih h).1, (ih h).2⟩

/-- features of the intersection are exactly those in both sets -/
theorem features_are_intersection (src cp : List String) (f : String) :
    f ∈ intersection src cp ↔ f ∈ src ∧ f ∈ cp := by
  simp [intersection]

/-- soundness: the negotiated version has an identifier present in BOTH lists, its features are the
    intersection of the chosen supported version with the FIRST counterparty version of that
    identifier, and the feature set is non-empty. -/
theorem pickVersion_sound (sup cp : List Version) (v : Version) (h : pickVersion sup cp = some v) :
    ∃ s ∈ sup, ∃ c ∈ cp, s.id = v.id ∧ c.id = v.id ∧ findSupported s.id cp = some c ∧
      v.features = intersection s.features c.features ∧ v.features ≠ [] := by
  induction sup with
  | nil => simp [pickVersion] at h
  | cons s rest ih =>
    simp only [pickVersion] at h
    split at h
    · rename_i c hc
      split at h
      · obtain ⟨s', hs', r⟩ := ih h
        exact ⟨s', List.mem_cons_of_mem _ hs', r⟩
      · rename_i hne
        cases h
        have := findSupported_some hc
        refine ⟨s, List.mem_cons_self, c, this.1, rfl, this.2, hc, rfl, ?_⟩
        intro e; exact hne (by simpa using e)
    · obtain ⟨s', hs', r⟩ := ih h
      exact ⟨s', List.mem_cons_of_mem _ hs', r⟩

/-- a supported version is "usable" against the counterparty list -/
def usable (s : Version) (cp : List Version) : Prop :=
  ∃ c, findSupported s.id cp = some c ∧ intersection s.features c.features ≠ []

instance (s : Version) (cp : List Version) : Decidable (usable s cp) := by
  unfold usable
  cases h : findSupported s.id cp with
  | none => exact isFalse (by simp)
  | some c =>
    by_cases e : intersection s.features c.features = []
    · exact isFalse (by simp [e])
    · exact isTrue ⟨c, rfl, e⟩

/-- order: the FIRST usable supported version wins; negotiation fails iff none is usable -/
theorem pickVersion_first (sup cp : List Version) :
    (pickVersion sup cp = none ↔ ∀ s ∈ sup, ¬ usable s cp) ∧
    (∀ v, pickVersion sup cp = some v → ∃ pre s post, sup = pre ++ s :: post ∧ (∀ s' ∈ pre, ¬ usable s' cp) ∧
        usable s cp ∧ v.id = s.id) := by
  induction sup with
  | nil => simp [pickVersion]
  | cons s rest ih =>
    obtain ⟨ih1, ih2⟩ := ih
    by_cases hu : usable s cp
    · obtain ⟨c, hc, hne⟩ := hu
      have hv : pickVersion (s :: rest) cp = some ⟨s.id, intersection s.features c.features⟩ := by
        simp [pickVersion, hc, hne]
      refine ⟨by simp only [hv, reduceCtorEq, false_iff]; exact fun h => h s List.mem_cons_self ⟨c, hc, hne⟩,
        fun v h => ?_⟩
      rw [hv] at h
      cases h
      exact ⟨[], s, rest, rfl, by simp, ⟨c, hc, hne⟩, rfl⟩
    · have heq : pickVersion (s :: rest) cp = pickVersion rest cp := by
        simp only [pickVersion]
        split
        · rename_i c hc
          have : intersection s.features c.features = [] := Decidable.byContradiction fun h => hu ⟨c, hc, h⟩
          simp [this]
        · rfl
      rw [heq]
      refine ⟨by simp [ih1, hu], fun v hv => ?_⟩
      obtain ⟨pre, s0, post, e, hp, hu0, hid⟩ := ih2 v hv
      exact ⟨s :: pre, s0, post, by rw [e]; rfl, by simpa [hu] using hp, hu0, hid⟩

/-- a proposed version is accepted iff its identifier is supported (first entry of that identifier),
    every proposed feature is supported, and the proposed feature set is not empty -/
theorem isSupported_iff (sup : List Version) (p : Version) :
    isSupported sup p = true ↔
      ∃ s, findSupported p.id sup = some s ∧ p.features ≠ [] ∧ ∀ f ∈ p.features, f ∈ s.features := by
  unfold isSupported
  cases h : findSupported p.id sup with
  | none => simp
  | some s =>
    simp only [verifyProposed, (findSupported_some h).2, Bool.and_eq_true, beq_iff_eq, Bool.not_eq_true',
      List.isEmpty_eq_false_iff, List.all_eq_true, List.contains_iff_mem, Option.some.injEq, exists_eq_left', true_and, ne_eq]

/-- the negotiated version is itself acceptable to both sides (closure of the handshake check) -/
theorem picked_is_supported_by_both (sup cp : List Version) (v : Version) (h : pickVersion sup cp = some v) :
    ∃ s ∈ sup, ∃ c ∈ cp, verifyProposed s v = true ∧ verifyProposed c v = true := by
  obtain ⟨s, hs, c, hc, e1, e2, _, hf, hne⟩ := pickVersion_sound sup cp v h
  refine ⟨s, hs, c, hc, ?_, ?_⟩ <;>
  · simp only [verifyProposed, Bool.and_eq_true, beq_iff_eq, Bool.not_eq_true', List.all_eq_true, List.contains_iff_mem]
    refine ⟨⟨by simp [e1, e2], List.isEmpty_eq_false_iff.mpr hne⟩, fun f hfm => ?_⟩
    rw [hf, features_are_intersection] at hfm
    first | exact hfm.1 | exact hfm.2

/-- non-vacuity: the default version against itself -/
example : pickVersion [⟨"1", ["ORDER_ORDERED", "ORDER_UNORDERED"]⟩] [⟨"2", ["X"]⟩, ⟨"1", ["ORDER_UNORDERED", "Y"]⟩]
    = some ⟨"1", ["ORDER_UNORDERED"]⟩ := by decide +kernel

end IbcVerif.C13V
