/-
  C28 — Attestor quorum, distinct signers and domain separation (attestations light client).
  Property theorems only; helper lemmas live in IbcVerif/Lemmas/Attest.lean.

  `H` (SHA-256) and `keccak` are arbitrary functions; ECDSA is symbolic (`Sig.signed signer digest`);
  the ABI decoder's verdict on the attestation data is part of the `Proof` argument, universally
  quantified.  Statements about hashes are in collision-extraction form: the conclusion exhibits an
  explicit pair `x ≠ y` with `H x = H y`.
-/
import IbcVerif.Model.Attest
import IbcVerif.Lemmas.Attest
namespace IbcVerif.C28
open IbcVerif.Attest

/-- **`verifySignatures` accepts ⇔** the list is non-empty, has at least `minSigs` entries, and is — entry
by entry — a genuine (hence 65-byte, recoverable) signature over the tagged hash of exactly this
attestation data and type, by pairwise distinct signers that are all configured attestors. -/
theorem verifySignatures_ok_iff (H : Bytes → Bytes) (cs : ClientState) (data : Bytes)
    (sigs : List Sig) (ty : UInt8) :
    verifySignatures H cs data sigs ty = .ok () ↔
      sigs ≠ [] ∧ cs.minSigs ≤ sigs.length ∧
      ∃ signers : List Addr, sigs = signers.map (fun a => Sig.signed a (tagged H ty data)) ∧
        (∀ a ∈ signers, a ∈ cs.attestors) ∧ signers.Nodup := by
  simp only [verifySignatures_ok_iff_sigLoop, sigLoop_ok_iff, List.not_mem_nil, not_false_eq_true, and_true]

/-- Every accepted signature is 65 bytes long and recovers, under the tagged hash of exactly this data,
to a configured attestor. -/
theorem accepted_sigs_wellformed (H : Bytes → Bytes) (cs : ClientState) (data : Bytes)
    (sigs : List Sig) (ty : UInt8) (h : verifySignatures H cs data sigs ty = .ok ()) :
    ∀ σ ∈ sigs, σ.len = 65 ∧ ∃ a ∈ cs.attestors, recover σ (tagged H ty data) = .addr a := by
  obtain ⟨_, _, signers, rfl, hatt, _⟩ := (verifySignatures_ok_iff H cs data sigs ty).mp h
  intro σ hσ
  obtain ⟨a, ha, rfl⟩ := List.mem_map.mp hσ
  exact ⟨rfl, a, hatt a ha, by simp [recover]⟩

/-- **Quorum of distinct attestors**: acceptance implies that at least `minSigs` (and at least one)
pairwise distinct configured attestors each signed the tagged hash of exactly this data and type. -/
theorem quorum_distinct (H : Bytes → Bytes) (cs : ClientState) (data : Bytes) (sigs : List Sig)
    (ty : UInt8) (h : verifySignatures H cs data sigs ty = .ok ()) :
    ∃ signers : List Addr, signers.Nodup ∧ cs.minSigs ≤ signers.length ∧ 1 ≤ signers.length ∧
      ∀ a ∈ signers, a ∈ cs.attestors ∧ Sig.signed a (tagged H ty data) ∈ sigs := by
  obtain ⟨hne, hq, signers, rfl, hatt, hnd⟩ := (verifySignatures_ok_iff H cs data sigs ty).mp h
  exact ⟨signers, hnd, by simpa using hq, List.length_pos_iff.mpr (by simpa using hne),
    fun a ha => ⟨hatt a ha, List.mem_map_of_mem ha⟩⟩

/-- Counting is after de-duplication: a list that repeats a signer is rejected however long it is. -/
theorem duplicate_signer_rejected (H : Bytes → Bytes) (cs : ClientState) (data : Bytes) (ty : UInt8)
    (pre mid post : List Sig) (a : Addr) (d d' : Bytes) :
    verifySignatures H cs data (pre ++ Sig.signed a d :: mid ++ Sig.signed a d' :: post) ty ≠ .ok () := by
  intro h
  obtain ⟨_, _, signers, hs, _, hnd⟩ := (verifySignatures_ok_iff H cs data _ ty).mp h
  -- the signer list projected from the signature list contains `a` twice
  have hproj : (pre ++ Sig.signed a d :: mid ++ Sig.signed a d' :: post).filterMap
      (fun σ => match σ with | .signed b _ => some b | _ => none) = signers := by
    rw [hs]; simp [List.filterMap_map, Function.comp_def]
  have hcount : 2 ≤ signers.count a := by
    rw [← hproj]
    simp only [List.append_assoc, List.cons_append, List.filterMap_append, List.filterMap_cons,
      List.count_append, List.count_cons_self]
    omega
  have := List.nodup_iff_count.mp hnd a
  omega

/-- `tagged` is injective in (type, data) up to an explicit SHA-256 collision. -/
theorem tagged_injective_or_collision (H : Bytes → Bytes) (t t' : UInt8) (d d' : Bytes)
    (h : tagged H t d = tagged H t' d') :
    (t = t' ∧ d = d') ∨
    (t :: H d ≠ t' :: H d' ∧ H (t :: H d) = H (t' :: H d')) ∨
    (d ≠ d' ∧ H d = H d') := by
  by_cases hpre : t :: H d = t' :: H d'
  · by_cases hd : d = d'
    · exact .inl ⟨(List.cons.inj hpre).1, hd⟩
    · exact .inr (.inr ⟨hd, (List.cons.inj hpre).2⟩)
  · exact .inr (.inl ⟨hpre, h⟩)

/-- **Domain separation**: the state tag and the packet tag give different signing inputs for any two
payloads — equality yields an explicit collision of `H` on two 33-byte preimages that differ in byte 0. -/
theorem domain_separated (H : Bytes → Bytes) (d d' : Bytes)
    (h : tagged H tagState d = tagged H tagPacket d') :
    tagState :: H d ≠ tagPacket :: H d' ∧ H (tagState :: H d) = H (tagPacket :: H d') :=
  ⟨by simp [tagState, tagPacket], h⟩

/-- **State and packet attestations are not interchangeable**: one signature list accepted as a state
attestation of `d` and as a packet attestation of `d'` yields an explicit collision of `H`. -/
theorem state_packet_not_interchangeable (H : Bytes → Bytes) (cs : ClientState) (d d' : Bytes)
    (sigs : List Sig)
    (h1 : verifySignatures H cs d sigs tagState = .ok ())
    (h2 : verifySignatures H cs d' sigs tagPacket = .ok ()) :
    tagState :: H d ≠ tagPacket :: H d' ∧ H (tagState :: H d) = H (tagPacket :: H d') :=
  domain_separated H d d' (accepted_same_digest h1 h2)

/-- A signature list binds the data: accepted for `d` and for `d'` under the same type means `d = d'`
or an explicit collision. -/
theorem signatures_bind_data (H : Bytes → Bytes) (cs : ClientState) (ty : UInt8) (d d' : Bytes)
    (sigs : List Sig)
    (h1 : verifySignatures H cs d sigs ty = .ok ())
    (h2 : verifySignatures H cs d' sigs ty = .ok ()) :
    d = d' ∨ (ty :: H d ≠ ty :: H d' ∧ H (ty :: H d) = H (ty :: H d')) ∨ (d ≠ d' ∧ H d = H d') :=
  (tagged_injective_or_collision H ty ty d d' (accepted_same_digest h1 h2)).imp_left And.right

/-- **Membership ⇔** not frozen ∧ a consensus state is stored at the proof height ∧ the proof unmarshals
and carries a packet-type quorum ∧ its data ABI-decodes to (h, packets) with `h` the revision height ∧
the path is a one-element Merkle path with non-empty key ∧ the value is 32 bytes ∧ some attested packet
has exactly that commitment at `keccak(key)`. -/
theorem membership_iff (H keccak : Bytes → Bytes) (s : State) (height : Nat × Nat)
    (proof : Option Proof) (path : PathArg) (value : Bytes) :
    verifyMembership H keccak s height proof path value = .ok () ↔
      s.cs.frozen = false ∧ value.length = 32 ∧ (s.cons.get height).isSome ∧
      ∃ pr k hh packets, proof = some pr ∧ path = .merkle [k] ∧ k ≠ [] ∧
        verifySignatures H s.cs pr.data pr.sigs tagPacket = .ok () ∧
        pr.decPacket = some (hh, packets) ∧ hh = height.2 ∧
        ∃ p ∈ packets, p.1 = keccak k ∧ p.2 = value ∧ p.1.length = 32 := by
  rw [verifyMembership_eq, attested_ok_iff _ _ _ _ _ _ _ (by simp [committed_ok_iff])]
  simp only [committed_ok_iff]
  constructor
  · rintro ⟨hf, -, hc, pr, k, hh, packets, hpr, hpath, hk, hs, hd, hhh, hv, h⟩
    exact ⟨hf, hv, hc, pr, k, hh, packets, hpr, hpath, hk, hs, hd, hhh, h⟩
  · rintro ⟨hf, hv, hc, pr, k, hh, packets, hpr, hpath, hk, hs, hd, hhh, h⟩
    exact ⟨hf, by simp [hv], hc, pr, k, hh, packets, hpr, hpath, hk, hs, hd, hhh, hv, h⟩

/-- **Non-membership ⇔** (same gates) ∧ the hashed path is attested ∧ every attested entry for it
carries the 32-byte zero commitment. -/
theorem nonmembership_iff (H keccak : Bytes → Bytes) (s : State) (height : Nat × Nat)
    (proof : Option Proof) (path : PathArg) :
    verifyNonMembership H keccak s height proof path = .ok () ↔
      s.cs.frozen = false ∧ (s.cons.get height).isSome ∧
      ∃ pr k hh packets, proof = some pr ∧ path = .merkle [k] ∧ k ≠ [] ∧
        verifySignatures H s.cs pr.data pr.sigs tagPacket = .ok () ∧
        pr.decPacket = some (hh, packets) ∧ hh = height.2 ∧
        (∃ p ∈ packets, p.1 = keccak k) ∧ (∀ p ∈ packets, p.1 = keccak k → p.2 = zero32) := by
  rw [verifyNonMembership_eq, attested_ok_iff _ _ _ _ _ _ _ (by simp [zeroed_ok_iff])]
  simp only [zeroed_ok_iff, true_and]

/-- Membership and non-membership are mutually exclusive for a non-zero value on the same proof. -/
theorem membership_excludes_nonmembership (H keccak : Bytes → Bytes) (s : State) (height : Nat × Nat)
    (proof : Option Proof) (path : PathArg) (value : Bytes) (hv : value ≠ zero32)
    (h : verifyMembership H keccak s height proof path value = .ok ()) :
    verifyNonMembership H keccak s height proof path ≠ .ok () := by
  intro h'
  obtain ⟨-, -, -, pr, k, hh, packets, rfl, rfl, -, -, hdec, -, p, hp, hp1, hp2, -⟩ :=
    (membership_iff H keccak s height proof path value).mp h
  obtain ⟨-, -, _, _, _, _, hpr, hpath, -, -, hdec', -, -, hall⟩ := (nonmembership_iff H keccak s height _ _).mp h'
  cases hpr; cases hpath
  rw [hdec] at hdec'; cases hdec'
  exact hv (hp2 ▸ hall p hp hp1)

attribute [local simp] step verifyClientMessage checkForMisbehaviour updateState

/-- **An update accepted by quorum that attests, for an already stored height, a timestamp different from
the stored one freezes the client** (and stores nothing). Timestamps are compared as stored: uint64
nanoseconds `nanos secs`. -/
theorem conflicting_timestamp_freezes (H keccak : Bytes → Bytes) (s : State) (pr : Proof)
    (h secs ts : Nat)
    (hact : s.cs.frozen = false)
    (hsig : verifySignatures H s.cs pr.data pr.sigs tagState = .ok ())
    (hdec : pr.stateAtt = some (h, secs))
    (hstored : s.cons.get (0, h) = some ts)
    (hdiff : ts ≠ nanos secs) :
    step H keccak s (.update (some pr)) = (freeze s, .ok) ∧ (freeze s).cs.frozen = true ∧
      (freeze s).cons = s.cons :=
  ⟨by simp [hact, hsig, hdec, hstored, bne_iff_ne.mpr hdiff],
    rfl, rfl⟩

/-- Conversely the client freezes *only* so: an `update` that ends frozen from an active state was accepted
by quorum (state tag) and conflicts with a stored timestamp. -/
theorem freeze_only_on_conflict (H keccak : Bytes → Bytes) (s : State) (msg : ClientMsg)
    (hact : s.cs.frozen = false)
    (hfr : (step H keccak s (.update msg)).1.cs.frozen = true) :
    ∃ pr h secs ts, msg = some pr ∧ verifySignatures H s.cs pr.data pr.sigs tagState = .ok () ∧
      pr.stateAtt = some (h, secs) ∧ s.cons.get (0, h) = some ts ∧ ts ≠ nanos secs := by
  rcases step_update_cases H keccak s msg with ⟨e, h⟩ |
    ⟨pr, h, secs, rfl, -, hsig, hdec, ⟨ts, hst, hd, -⟩ | h'⟩
  · rw [h, hact] at hfr; cases hfr
  · exact ⟨pr, h, secs, ts, rfl, hsig, hdec, hst, hd⟩
  · rw [h'] at hfr; cases hact.symm.trans hfr

/-- An update is accepted only by an unfrozen client and with a state-type quorum. -/
theorem update_accepted_only_with_quorum (H keccak : Bytes → Bytes) (s : State) (msg : ClientMsg)
    (hok : (step H keccak s (.update msg)).2 = .ok) :
    s.cs.frozen = false ∧ ∃ pr, msg = some pr ∧
      verifySignatures H s.cs pr.data pr.sigs tagState = .ok () := by
  rcases step_update_cases H keccak s msg with ⟨e, h⟩ | ⟨pr, _, _, rfl, hf, hsig, -⟩
  · rw [h] at hok; cases hok
  · exact ⟨hf, pr, rfl, hsig⟩

/-- **A frozen client accepts nothing**: every operation returns an error and leaves the state unchanged. -/
theorem frozen_accepts_nothing (H keccak : Bytes → Bytes) (s : State) (op : Op)
    (hfr : s.cs.frozen = true) :
    (step H keccak s op).1 = s ∧ ∃ e, (step H keccak s op).2 = .err e := by
  cases op <;>
    simp [hfr, verifyMembership_eq, verifyNonMembership_eq, attested, resOf]

/-- **Over all histories**: once frozen, the client stays frozen, its state never changes again and
every later operation fails. -/
theorem frozen_forever (H keccak : Bytes → Bytes) (s : State) (ops : List Op)
    (hfr : s.cs.frozen = true) :
    (run H keccak s ops).1 = s ∧ ∀ r ∈ (run H keccak s ops).2, ∃ e, r = .err e := by
  induction ops with
  | nil => simp [run]
  | cons op ops ih =>
    obtain ⟨h1, e, h2⟩ := frozen_accepts_nothing H keccak s op hfr
    simp only [run, h1, List.forall_mem_cons]
    exact ⟨ih.1, ⟨e, h2⟩, ih.2⟩

/-- **Over all histories**: freezing is irreversible — if the client is frozen at some point of a history
it is frozen at the end. -/
theorem frozen_monotone (H keccak : Bytes → Bytes) (s : State) (ops ops' : List Op)
    (hfr : (run H keccak s ops).1.cs.frozen = true) :
    (run H keccak (run H keccak s ops).1 ops').1.cs.frozen = true := by
  rw [(frozen_forever H keccak _ ops' hfr).1]; exact hfr

/-- an accepted state attestation carries a timestamp whose nanosecond conversion does not wrap -/
theorem stateAtt_bound (pr : Proof) (h secs : Nat) (hd : pr.stateAtt = some (h, secs)) :
    secs * 1000000000 < 2 ^ 64 := by
  unfold Proof.stateAtt at hd
  split at hd
  · cases hd
  · split at hd
    · cases hd
    · next hb => cases hd; unfold maxSeconds at hb; omega

/-- **The property read on the attested value (seconds, as signed)**: two accepted updates for one height
that attest different timestamps freeze the client. (Since fix b1892f8 `ABIDecodeStateAttestation` rejects
seconds whose nanosecond conversion would wrap in uint64; before it, 1 s and 1 s + 2^55 s were stored as the
same value and the second update was a no-op.) -/
theorem conflicting_seconds_freeze
    (H keccak : Bytes → Bytes) (s : State) (pr pr' : Proof) (h secs secs' : Nat)
    (hne : secs ≠ secs')
    (hact : s.cs.frozen = false) (hfresh : s.cons.get (0, h) = none)
    (hdec : pr.stateAtt = some (h, secs)) (hdec' : pr'.stateAtt = some (h, secs'))
    (hsig : verifySignatures H s.cs pr.data pr.sigs tagState = .ok ())
    (hsig' : verifySignatures H s.cs pr'.data pr'.sigs tagState = .ok ()) :
    (run H keccak s [.update (some pr), .update (some pr')]).1.cs.frozen = true := by
  have hb := stateAtt_bound pr h secs hdec
  have hb' := stateAtt_bound pr' h secs' hdec'
  have hn : nanos secs ≠ nanos secs' := by
    unfold nanos
    rw [Nat.mod_eq_of_lt hb, Nat.mod_eq_of_lt hb']
    omega
  have hget : Cons.get (Cons.set s.cons (0, h) (nanos secs)) (0, h) = some (nanos secs) := by
    simp [Cons.get, Cons.set]
  have hsig'' : ∀ l f, verifySignatures H { s.cs with latest := l, frozen := f } pr'.data pr'.sigs tagState
      = .ok () := fun _ _ => hsig'
  simp [run, hact, hsig, hsig'', hdec, hdec', hfresh, hget, bne_iff_ne.mpr hn, freeze]

/-- an update whose attested seconds would overflow is never accepted: `CheckForMisbehaviour` cannot decode
it (the transaction panics / fails) and the state is unchanged -/
theorem overflowing_timestamp_rejected (H keccak : Bytes → Bytes) (s : State) (pr : Proof) (h secs : Nat)
    (hdec : pr.decState = some (h, secs)) (hbig : secs > maxSeconds) :
    (step H keccak s (.update (some pr))).1 = s ∧ (step H keccak s (.update (some pr))).2 ≠ .ok := by
  have hst : pr.stateAtt = none := by simp [Proof.stateAtt, hdec, hbig]
  rcases step_update_cases H keccak s (some pr) with ⟨e, h⟩ | ⟨_, _, _, e, -, -, hd, -⟩
  · rw [h]; exact ⟨rfl, nofun⟩
  · cases e; rw [hst] at hd; cases hd

/-- 3 attestors, quorum 2: two distinct attestors over the right digest are accepted; a duplicate, an
unknown signer, a signature over the packet tag, a truncated signature and a single signature are not. -/
example :
    let H : Bytes → Bytes := fun x => 0 :: x
    let cs : ClientState := ⟨[10, 11, 12], 2, 0, false⟩
    let d := tagged H tagState [9]
    verifySignatures H cs [9] [.signed 10 d, .signed 12 d] tagState = .ok () ∧
    verifySignatures H cs [9] [.signed 10 d, .signed 10 d] tagState = .error .duplicateSigner ∧
    verifySignatures H cs [9] [.signed 10 d, .signed 13 d] tagState = .error .unknownSigner ∧
    verifySignatures H cs [9] [.signed 10 d, .signed 12 (tagged H tagPacket [9])] tagState
      = .error .unknownSigner ∧
    verifySignatures H cs [9] [.signed 10 d, .malformed 64] tagState = .error .invalidSignature ∧
    verifySignatures H cs [9] [.signed 10 d] tagState = .error .invalidQuorum ∧
    verifySignatures H cs [9] [] tagState = .error .invalidSignature :=
  ⟨rfl, rfl, rfl, rfl, rfl, rfl, rfl⟩

end IbcVerif.C28
